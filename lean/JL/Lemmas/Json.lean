import JL.StrArr
/-!
# Facts about `Json` values used across properties: structural induction, well-formedness and depth of sub-values, `as_i64`,
`Map::get`, the two list comparisons of `deep_eq` without recursion
-/
namespace JL
open Json

/-- `Json` is nested through `List` and `Prod`, so its recursor has four motives. This is the one-motive form: the list and pair
motives are "every element" and "every value". -/
theorem json_induction {P : Json → Prop} (null : P .null) (bool : ∀ b, P (.bool b)) (num : ∀ n, P (.num n))
    (str : ∀ s, P (.str s)) (arr : ∀ xs, (∀ x ∈ xs, P x) → P (.arr xs))
    (obj : ∀ kvs, (∀ p ∈ kvs, P p.2) → P (.obj kvs)) : ∀ a, P a :=
  Json.rec (motive_1 := P) (motive_2 := fun xs => ∀ x ∈ xs, P x) (motive_3 := fun kvs => ∀ p ∈ kvs, P p.2)
    (motive_4 := fun p => P p.2) null bool num str arr obj nofun
    (fun _ _ hx hxs => List.forall_mem_cons.mpr ⟨hx, hxs⟩) nofun
    (fun _ _ hp hkvs => List.forall_mem_cons.mpr ⟨hp, hkvs⟩) (fun _ _ hv => hv)

theorem wfList_iff : ∀ xs : List Json, wfList xs = true ↔ ∀ x ∈ xs, x.wf = true
  | [] => by simp [wfList]
  | x :: xs => by simp [wfList, wfList_iff xs]

theorem wfList_append (xs ys : List Json) : wfList (xs ++ ys) = (wfList xs && wfList ys) := by
  induction xs with
  | nil => simp [wfList]
  | cons x xs ih => simp [wfList, ih, Bool.and_assoc]

theorem wfKvs_iff : ∀ kvs : List (Str × Json), wfKvs kvs = true ↔ ∀ p ∈ kvs, p.2.wf = true
  | [] => by simp [wfKvs]
  | (k, v) :: rest => by simp [wfKvs, wfKvs_iff rest]

theorem wf_arr (xs : List Json) : (Json.arr xs).wf = wfList xs := rfl
theorem wf_str (s : Str) : (Json.str s).wf = true := rfl
theorem wf_bool (b : Bool) : (Json.bool b).wf = true := rfl
theorem wf_null : Json.null.wf = true := rfl

/-- one key: `keysSorted` has nothing to compare -/
theorem wf_single (k : Str) (v : Json) : (Json.obj [(k, v)]).wf = v.wf := by
  simp [Json.wf, wfKvs, keysSorted]

theorem wf_obj_iff {kvs : List (Str × Json)} : (Json.obj kvs).wf = true ↔ wfKvs kvs = true ∧ keysSorted kvs = true :=
  Bool.and_eq_true_iff

theorem wf_obj_kvs {kvs : List (Str × Json)} (h : (Json.obj kvs).wf = true) : wfKvs kvs = true := (wf_obj_iff.mp h).1

theorem mem_wf {x : Json} {xs : List Json} (h : (Json.arr xs).wf = true) (hx : x ∈ xs) : x.wf = true :=
  (wfList_iff xs).mp (by rw [← wf_arr]; exact h) x hx

/-! ## depth of sub-values -/

theorem depth_le_depthList {a : Json} : ∀ {xs : List Json}, a ∈ xs → Json.depth a ≤ Json.depthList xs
  | [], h => by cases h
  | x :: xs, h => by
    simp only [Json.depthList]
    rcases List.mem_cons.1 h with rfl | h
    · omega
    · have := depth_le_depthList h; omega

theorem depth_le_depthKvs {k : Str} {a : Json} : ∀ {kvs : List (Str × Json)}, (k, a) ∈ kvs → Json.depth a ≤ Json.depthKvs kvs
  | [], h => by cases h
  | (k', x) :: xs, h => by
    simp only [Json.depthKvs]
    rcases List.mem_cons.1 h with h | h
    · cases h; omega
    · have := depth_le_depthKvs h; omega

/-! ## `Number::as_i64` -/

theorem asI64_lt {n : Num} {i : Int} (h : n.asI64 = some i) : i < 2 ^ 63 := by
  cases n with
  | pos n => simp only [Num.asI64] at h; split at h <;> cases h; omega
  | neg m => cases h; omega
  | flt f => cases h

/-- a well-formed `NegInt` holds at most `2^63` -/
theorem asI64_ge {n : Num} (hn : n.WF) {i : Int} (h : n.asI64 = some i) : -(2 ^ 63 : Int) ≤ i := by
  cases n with
  | pos n => simp only [Num.asI64] at h; split at h <;> cases h; omega
  | neg m => cases h; have := hn.2; omega
  | flt f => cases h

/-! ## `Map::get` -/

theorem mem_of_lookup : ∀ (y : List (Str × Json)) (k : Str) (b : Json), Json.lookup k y = some b → (k, b) ∈ y
  | [], _, _, h => by cases h
  | (k', v) :: rest, k, b, h => by
      simp only [Json.lookup] at h
      split at h
      · cases h; subst k'; exact List.mem_cons_self
      · exact List.mem_cons_of_mem _ (mem_of_lookup rest k b h)

/-- `deep_eq`'s test of one key of the left object against the right object -/
theorem lookupEq_eq (k : Str) (a : Json) : ∀ y, ArrOp.lookupEq k a y = (Json.lookup k y).map (ArrOp.deepEq a)
  | [] => by simp [ArrOp.lookupEq, Json.lookup]
  | (k', b) :: rest => by
      simp only [ArrOp.lookupEq, Json.lookup]
      split
      · rfl
      · exact lookupEq_eq k a rest

theorem lookup_wf {k : Str} {kvs : List (Str × Json)} {v : Json} (hw : wfKvs kvs = true)
    (h : lookup k kvs = some v) : v.wf = true :=
  (wfKvs_iff kvs).mp hw _ (mem_of_lookup kvs k v h)

/-! ## `deep_eq` on two arrays, on two objects -/

/-- `deepEqList` without recursion: same length, and equal item by item -/
theorem deepEqList_eq : ∀ (x y : List Json),
    ArrOp.deepEqList x y = (x.length == y.length && (x.zip y).all (fun p => ArrOp.deepEq p.1 p.2))
  | [], [] => by simp [ArrOp.deepEqList]
  | [], _ :: _ => by simp [ArrOp.deepEqList]
  | _ :: _, [] => by simp [ArrOp.deepEqList]
  | a :: as, b :: bs => by
    simp [ArrOp.deepEqList, deepEqList_eq as bs, Bool.and_left_comm]

/-- what `deepEqKvs x y` asks of one entry of `x` -/
def kvOk (y : List (Str × Json)) (p : Str × Json) : Bool :=
  match Json.lookup p.1 y with
  | some b => ArrOp.deepEq p.2 b
  | none => false

/-- `deepEqKvs` without recursion -/
theorem deepEqKvs_eq (y : List (Str × Json)) : ∀ (x : List (Str × Json)), ArrOp.deepEqKvs x y = x.all (kvOk y)
  | [] => by simp [ArrOp.deepEqKvs]
  | (k, a) :: rest => by
    simp only [ArrOp.deepEqKvs, List.all_cons, deepEqKvs_eq y rest, lookupEq_eq, kvOk]
    cases Json.lookup k y <;> simp

end JL
