import JL.StrArr
import JL.Spec.Substr
/-!
# Lemmas for C16 — the `usize` index arithmetic of `substr` against the character-level specification

`substrBounds` returns a start index and a count; the count is `end ∸ start` for an end index, and
"drop `start`, take `end - start`" is "the characters before `end`, without those before `start`" (`List.drop_take`),
which is how the specification writes a negative length; for `l ≥ 0` both sides are drop-then-take and only the clamps
differ.
-/
namespace JL.Lemmas.C16
open JL Json StrOp JL.Spec

/-- `a.checked_sub(b).unwrap_or(0)` is truncated subtraction -/
theorem checkedSub_eq_sub (a b : Nat) : (if b ≤ a then a - b else 0) = a - b := by
  split
  · rfl
  · omega

theorem substrStart_le (len : Nat) (i : Int) : substrStart len i ≤ len := by
  unfold substrStart; split
  · exact Nat.min_le_right ..
  · exact Nat.sub_le ..

/-- the specification's start, as the code computes it -/
theorem substrStart_eq (len : Nat) (i : Int) :
    substrStart len i = if i < 0 then len - i.natAbs else min len i.natAbs := by
  unfold substrStart
  by_cases h : 0 ≤ i
  · rw [if_pos h, if_neg (Int.not_lt.mpr h), Nat.min_comm]; congr 1; omega
  · rw [if_neg h, if_pos (Int.not_le.mp h), Nat.min_def]; split
    · rfl
    · omega

/-- cutting at any index, counted from the front (`l ≥ 0`) or from the back (`l < 0`), loses nothing -/
theorem substrSpec_split (s : Str) (l : Int) : substrSpec s 0 (some l) ++ substrSpec s l none = s := by
  simp only [substrSpec, substrStart_eq, Int.lt_irrefl, if_false, Int.natAbs_zero, Nat.min_zero, List.drop_zero]
  by_cases h : l < 0
  · rw [if_pos h, if_neg (Int.not_le.mpr h)]
    exact List.take_append_drop ..
  · rw [if_neg h, if_pos (Int.not_lt.mp h), show l.natAbs = l.toNat by omega, Nat.min_comm, List.take_eq_take_min]
    exact List.take_append_drop ..

/-- `substrBounds` unfolded, with truncated subtraction for the model's `if b ≤ a then a - b else 0` -/
theorem substrBounds_unfold (len : Nat) (idx : Int) (limit : Option Int) :
    substrBounds len idx limit =
      ((if idx < 0 then len - idx.natAbs else min len idx.natAbs),
       (match limit with
        | none => len
        | some l =>
            if l < 0 then len - l.natAbs
            else min len (if (if idx < 0 then len - idx.natAbs else min len idx.natAbs) + l.natAbs < 2 ^ 64
              then (if idx < 0 then len - idx.natAbs else min len idx.natAbs) + l.natAbs else len))
        - (if idx < 0 then len - idx.natAbs else min len idx.natAbs)) := by
  simp only [substrBounds, checkedSub_eq_sub]
  cases limit <;> rfl

/-- the index arithmetic in closed form: the specification's start index and an end index. With a length operand the
length of the string has to fit a `usize`; the operand may be any integer: where `start + |l|` reaches `2^64`, the
fallback `len` of `checked_add(..).unwrap_or(len)` is what the clamp `min len _` gives anyway. -/
theorem substrBounds_eq (len : Nat) (i : Int) (lim : Option Int) (h : lim = none ∨ len < 2 ^ 64) :
    substrBounds len i lim = (substrStart len i,
      (match lim with
       | none => len
       | some l => if l < 0 then len - l.natAbs else min len (substrStart len i + l.natAbs)) - substrStart len i) := by
  rw [substrBounds_unfold, ← substrStart_eq]
  cases lim with
  | none => rfl
  | some l =>
    have := h.resolve_left nofun
    simp only
    split
    · rfl
    · split
      · rfl
      · rw [Nat.min_self, Nat.min_eq_left (by omega)]

theorem slice_eq_substrSpec (s : Str) (i : Int) (lim : Option Int) (h : lim = none ∨ s.length < 2 ^ 64) :
    (s.drop (substrBounds s.length i lim).1).take (substrBounds s.length i lim).2 = substrSpec s i lim := by
  rw [substrBounds_eq _ _ _ h, ← List.drop_take]
  unfold substrSpec
  cases lim with
  | none => rw [List.take_length]
  | some l =>
    simp only
    by_cases hl : l < 0
    · rw [if_pos hl, if_neg (by omega)]
    · rw [if_neg hl, if_pos (by omega), List.take_drop, Nat.min_comm, ← List.take_take, List.take_length,
        show l.natAbs = l.toNat by omega]

end JL.Lemmas.C16
