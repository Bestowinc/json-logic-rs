import JL.Lemmas.RoundTripSeventeen
/-!
# Round trips — the digits chosen by `shortest` denote a value inside the rounding interval (and are found
with 17 digits at the latest), hence `ofDecimal` of them is the double they were printed from
-/
namespace JL.Lemmas.RoundTrip
open JL JL.F64

-- only silences "exponent exceeds the threshold" where `S` / `OVF` are unfolded; no proof depends on it
set_option exponentiation.threshold 4096

/-- `d · 10^e` as a fraction `decNum / decDen` of units (2^-1074) -/
def decNum (d : Nat) (e : Int) : Nat := if e ≥ 0 then d * 10 ^ e.toNat * S else d * S
def decDen (e : Int) : Nat := if e ≥ 0 then 1 else 10 ^ (-e).toNat

theorem decDen_pos (e : Int) : 0 < decDen e := by
  unfold decDen; split
  · decide
  · exact Nat.pow_pos (by decide)

/-- the exact decimal `d · 10^e` lies in the rounding interval of `k` -/
def DecIn (k d : Nat) (e : Int) : Prop := InIv k (decNum d e) (decDen e)

instance (k d : Nat) (e : Int) : Decidable (DecIn k d e) := by unfold DecIn; exact inferInstance

theorem roundUnits_inside (neg : Bool) (k num den : Nat) (hk0 : k ≠ 0) (hk : OnGrid k) (hd : 0 < den)
    (h : InIv k num den) : roundUnits neg num den = fin neg k := by
  rw [F64.roundUnits_eq, roundK_inside k num den hk0 ((grid_iff k).mp hk.2) hd h, if_neg (Nat.not_le.mpr hk.1)]

theorem ofDecimal_inside (neg : Bool) (k d : Nat) (e : Int) (hk0 : k ≠ 0) (hk : OnGrid k)
    (h : DecIn k d e) : ofDecimal neg d e = fin neg k := by
  rw [Lemmas.IEEE.ofDecimal_eq_roundUnits, ← roundUnits_inside neg k _ _ hk0 hk (decDen_pos e) h]
  unfold decNum decDen
  split
  · rw [show (-e).toNat = 0 by omega, Nat.pow_zero]
  · rw [show e.toNat = 0 by omega, Nat.pow_zero, Nat.mul_one]

/-! ## equal decimals are in the same intervals -/

theorem decIn_scale (k c : Nat) (p : Int) : DecIn k c p ↔ InIv k (c * (scale p).1) (scale p).2 := by
  unfold DecIn decNum decDen scale
  split
  · rw [Nat.mul_assoc]
  · rfl

/-- moving the decimal point: `c·10^j · 10^(p−j)` is `c · 10^p` -/
theorem decIn_shift (k c : Nat) (p : Int) (j : Nat) : DecIn k (c * 10 ^ j) (p - j) ↔ DecIn k c p := by
  rw [decIn_scale, decIn_scale]
  refine inIv_congr k (scale_pos _).2 (scale_pos _).2 ?_
  have := scale_shift (p - j) j
  rw [show p - j + j = p by omega] at this
  rw [Nat.mul_assoc c, Nat.mul_assoc c, Nat.mul_assoc c, this]

/-! ## the search loop of `shortest` -/

/-- the acceptance test of `shortest` (`inside`) is membership in the rounding interval -/
theorem inside_iff (k lo2 hi2 : Nat) (incl : Bool) (hiv : interval k = (lo2, hi2, incl)) (c A B : Nat) :
    (if incl = true then decide (lo2 * B ≤ 2 * c * A) && decide (2 * c * A ≤ hi2 * B)
      else decide (lo2 * B < 2 * c * A) && decide (2 * c * A < hi2 * B)) = true ↔ InIv k (c * A) B := by
  unfold InIv
  rw [hiv, Nat.mul_assoc 2 c A]
  cases incl <;> simp

/-- the digit search of `shortest` succeeds on `k` (it returns `(0, 0)` only by falling through all 17 lengths) -/
def ShortestOK (k : Nat) : Prop := k = 0 ∨ (shortest k).1 ≠ 0

instance (k : Nat) : Decidable (ShortestOK k) := by unfold ShortestOK; exact inferInstance

/-- the four outcomes of an attempt of `shortest`: both candidates pass, only the lower, only the upper, none -/
theorem attempt_cases {α : Type} (P : α → Prop) (a b : Bool) (X Y Z W : α) (h11 : a = true → b = true → P X)
    (h10 : a = true → b = false → P Y) (h01 : a = false → b = true → P Z) (h00 : a = false → b = false → P W) :
    P (if (a && b) = true then X else if a = true then Y else if b = true then Z else W) := by
  cases a <;> cases b
  · exact h00 rfl rfl
  · exact h01 rfl rfl
  · exact h10 rfl rfl
  · exact h11 rfl rfl

/-- **what `shortest` returns**: digits whose exact value `c · 10^p` lies in the rounding interval of `k`, unless the
search falls through (result `(0, 0)`) — which it never does on a non-zero magnitude below the overflow threshold:
17 digits always suffice -/
theorem shortest_spec (k : Nat) :
    ((shortest k).1 ≠ 0 → DecIn k (shortest k).1 (shortest k).2) ∧ (k ≠ 0 → k < OVF → (shortest k).1 ≠ 0) := by
  generalize hres : shortest k = res
  unfold shortest at hres
  generalize hiv : interval k = iv at hres
  obtain ⟨lo2, hi2, incl⟩ := iv
  rw [Id.run_bind, Std.Legacy.Range.forIn_eq_forIn_range'] at hres
  -- an attempt returns a non-zero candidate that passed `inside`, or goes on — but not the attempt with 17 digits
  refine (forIn_first _ _ (fun r : Nat × Int => r.1 ≠ 0 ∧ DecIn k r.1 r.2) (fun n => k ≠ 0 → k < OVF → n ≠ 17) _ res
      hres ?_).elim (fun hq => ⟨fun _ => hq.2, fun _ _ => hq.1⟩)
    (fun ⟨h0, hall⟩ => ⟨fun h => absurd (h0 ▸ rfl) h, fun hk0 hk => absurd rfl (hall 17 (by decide) hk0 hk)⟩)
  intro a b
  extract_lets p'
  split
  rename_i A B hAB
  replace hAB : scale p' = (A, B) := hAB
  extract_lets cf inside t dist c1 c2 ok1 ok2 cc
  have hin : ∀ x, inside x = true ↔ InIv k (x * A) B := fun x => inside_iff k lo2 hi2 incl hiv x A B
  have hdec : ∀ x, inside x = true → DecIn k x p' := fun x hx => (decIn_scale k x p').mpr (hAB ▸ (hin x).mp hx)
  have h1 : ok1 = true ↔ inside c1 = true ∧ 0 < c1 := by simp only [ok1, Bool.and_eq_true, decide_eq_true_eq]
  -- a candidate that passes its test qualifies as a result
  have q1 : ok1 = true → c1 ≠ 0 ∧ DecIn k c1 p' := fun e1 => ⟨Nat.ne_of_gt (h1.mp e1).2, hdec _ (h1.mp e1).1⟩
  have q2 : ok2 = true → c2 ≠ 0 ∧ DecIn k c2 p' := fun e2 => ⟨Nat.succ_ne_zero _, hdec _ e2⟩
  refine attempt_cases (fun s : Id (ForInStep (Option (Nat × Int) × Unit)) =>
      (∃ r, s.run = ForInStep.done (some r, ()) ∧ r.1 ≠ 0 ∧ DecIn k r.1 r.2) ∨
        (s.run = ForInStep.yield (none, ()) ∧ (k ≠ 0 → k < OVF → a ≠ 17)))
    ok1 ok2 _ _ _ _ (fun e1 e2 => Or.inl ⟨_, rfl, ?_⟩)
    (fun e1 _ => Or.inl ⟨_, rfl, q1 e1⟩) (fun _ e2 => Or.inl ⟨_, rfl, q2 e2⟩)
    (fun e1 e2 => Or.inr ⟨rfl, fun hk0 hk e17 => ?_⟩)
  · -- the closer of two passing candidates is one of them
    have pick : ∀ (P : Prop) [Decidable P] (x y : Nat), (x ≠ 0 ∧ DecIn k x p') → (y ≠ 0 ∧ DecIn k y p') →
        (if P then x else y) ≠ 0 ∧ DecIn k (if P then x else y) p' := fun P _ x y hx hy => by split <;> assumption
    exact pick _ _ _ (q1 e1) (pick _ _ _ (q2 e2) (pick _ _ _ (q1 e1) (q2 e2)))
  · -- with 17 digits one of the two candidates passes
    subst e17
    have hABk := scale_of_le10 k p' (show p' + 16 = floorLog10 k by omega ▸ floorLog10_le k hk0 hk)
    have hA := (scale_pos p').1
    rw [hAB] at hABk hA
    rcases last_iter_ok k A B hA hABk with h | h
    · exact Bool.false_ne_true (e1 ▸ h1.mpr ⟨(hin c1).mpr h.1, h.2⟩)
    · exact Bool.false_ne_true (e2 ▸ (hin c2).mpr h)

theorem shortestOK_of_onGrid (k : Nat) (hk : OnGrid k) : ShortestOK k :=
  (Nat.eq_zero_or_pos k).imp id fun h => (shortest_spec k).2 (Nat.ne_of_gt h) hk.1

end JL.Lemmas.RoundTrip
