import JL.Lemmas.StrNum
import JL.Lemmas.List
/-!
# Round trips — `str_to_number` / `parse_float_string` on the text of a decimal literal

`[-] L` with `L` the text of a decimal literal of value `m · 10^e` (`StrNum.DecLit L m e`) reads back as `ofDecimal neg m e`
(`readsAs_lit`): its characters are neither white space nor a radix prefix, and the grammar reads `L` whole (`lit_parse`).
-/
namespace JL.Lemmas.RoundTrip
open JL JL.JsOp JL.Spec JL.Lemmas.StrNum

theorem trimStart_of_no_ws (t : Str) (h : ∀ c ∈ t, isJsWhitespace c = false) : trimStart t = t :=
  dropWhile_eq_self h

theorem trimBoth_of_no_ws (t : Str) (h : ∀ c ∈ t, isJsWhitespace c = false) : trimBoth t = t := by
  unfold trimBoth trimEnd
  rw [trimStart_of_no_ws t h, dropWhile_eq_self (fun c hc => h c (List.mem_reverse.mp hc)),
    List.reverse_reverse]

theorem radixLiteral_numChars (t : Str) (h : ∀ c ∈ t, NumChar c) : radixLiteral t = none := by
  unfold radixLiteral
  split
  · rename_i p digits
    have ne : ∀ d ∈ ['x', 'X', 'o', 'O', 'b', 'B'], (p == d) = false := fun d hd =>
      beq_false_of_ne fun e => not_numChar_radix d hd (e ▸ h p (by simp))
    simp [ne]
  · rfl

/-- both readers, JS `Number(text)` (`str_to_number`) and `parseFloat(text)` (`parse_float_string`), return `x` on `t` -/
def ReadsAs (t : Str) (x : F64) : Prop := strToNumber t = some x ∧ parseFloatString t = some x

theorem readsAs_lit (neg : Bool) {L : Str} {m : Nat} {e : Int} (h : DecLit L m e) :
    ReadsAs ((if neg then ['-'] else []) ++ L) (F64.ofDecimal neg m e) := by
  obtain ⟨c, r, rfl, hc⟩ := decLit_head h
  have ⟨hp, hm, hI⟩ : c ≠ '+' ∧ c ≠ '-' ∧ c ≠ 'I' := by
    rcases hc with hc | rfl
    · exact ⟨digit_ne hc rfl, digit_ne hc rfl, digit_ne hc rfl⟩
    · decide
  have hsign : ES.sign ((if neg then ['-'] else []) ++ c :: r) = (neg, c :: r) := by
    cases neg
    · exact sign_cons c r hp hm
    · rfl
  have hnc := decLit_numChars neg h
  have hws : ∀ x ∈ (if neg then ['-'] else []) ++ c :: r, isJsWhitespace x = false :=
    fun x hx => numChar_not_ws x (hnc x hx)
  constructor
  · rw [strToNumber_unfold, trimBoth_of_no_ws _ hws, radixLiteral_numChars _ hnc, if_neg (by cases neg <;> simp),
      modelDec_eq]
    unfold specDec
    rw [hsign]
    simp only [lit_parse h]
    rw [if_neg (by simp [ES.infinityWord]; intro e; exact absurd e hI)]
  · rw [parseFloatString_eq]
    unfold ES.parseFloat
    rw [skipWS_eq, trimStart_of_no_ws _ hws, hsign]
    simp only [lit_parse h]
    rw [if_neg (by simp [ES.infinityWord, List.isPrefixOf]; intro e; exact absurd e.symm hI)]

end JL.Lemmas.RoundTrip
