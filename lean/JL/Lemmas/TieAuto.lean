import Lean
import JL.Rs
import JL.Lemmas.TieAttr
import JL.Lemmas.TieLoops
import JL.Lemmas.TieA
/-!
# Automation for the tie theorems of `JL/Tie` (translated Rust code = model)

The generated definitions change shape whenever a maintainer rewrites a Rust function without changing what it computes
(`.map(..).unwrap_or(..)` ↔ `match`, `if let` ↔ `match`, arms merged or reordered, a local `let` introduced, a helper
extracted, `a > b` ↔ `b < a`, `x == false` ↔ `!x`, early `return` ↔ expression, `fold` ↔ `for`, …). The tools here let a tie
proof be written without reference to that shape:

* `tie_cases f g …` case-splits on every value of the (model) functions `f g …` that occurs in the goal, wherever it occurs,
  and goes on doing so for the occurrences that the splits uncover;
* `tie_close [lemmas]` closes all goals by normalisation (`simp_all` with the prelude's unfolding set `rs`, the set `tie`
  below and the given lemmas), splitting the `match`es and `if`s that remain, in whatever order they come;
  `tie_close [lemmas] splitting f g …` interleaves `tie_cases f g …`. In the lemma list, `?c` stands for the constant `c` if it
  exists and for nothing otherwise, `↓l` makes `l` a pre-rule (see below), `-l` removes `l`;
* the simp set `tie`: facts about the prelude's combinators, the float comparisons, emptiness tests and loops in the forms that
  `simp [rs]` leaves, for operands that are not (yet) constructor terms; simprocs that keep `if`s healthy under `simp [rs]`.

Nothing in this file is specific to one translated function.

## How a tie is written so that it survives rewrites of the code
1. Split on the *inputs* the way the *model* does (`cases v`, `cases a <;> cases b`, `by_cases c = '-'`), never on the shape of the
   generated term. For a recursive generated function, `unfold Gen.f` once after that split.
2. Hand everything else to `tie_close [Gen.f, Model.f, ties of the callees, unfoldings of the model's callees] splitting <model
   functions whose values decide the outcome>`: the generated definition (and any extracted helper `Gen.aux_…`, which is in
   `rs`) is unfolded, every `Gen.g` is replaced by the model's `g` through the callee ties, and the case analysis is on
   model-side values (`JsOp.strToNumber s`, `JsOp.toPrimitiveNumber v`, …), which no rewrite of the code can change.
   Callee ties are given generously (also those the current code does not call: a rewrite may call them; hence
   `set_option linter.unusedSimpArgs false` in the tie modules that do so), sibling definitions that may be used in either direction
   (`abstract_gt` ↔ `abstract_lt`) as `?Gen.sibling`.
3. Facts that are stated on a library call itself (`Rs.eq (Rs.fract x) F64.zero = x.fractIsZero`, `Rs.to_f64 n = F64.ofNat n`) are
   given as pre-rules `↓l`: they must fire before `rs` unfolds the call's operands. Never let `rs` unfold a cast or product of
   floats on a symbolic operand (see `TieC`): `to_f64_nat`, `mul_f64`, … are pre-rules of `tie` for that reason.
4. Loops: bring the loop to the model's recursion by a lemma that is stated for an *arbitrary* body with the step equation as
   hypothesis (the entry points `rs_loop_opt`, `rs_loop_foldl`, `rs_loop_any_ret`, `rs_loop_all_mem` of `TieLoops`, which try every
   spelling of the loop; `TieC.for_radixLoop`, `TieC.for_splitLoop` for a loop the model writes as a recursion of its own), and
   close the step equation by case analysis and `simp [rs]` or `tie_close`.
5. No `rename_i`, no bullets that depend on the order of goals produced by `simp`/`split`, no `rw` with a generated subterm.
   (The modules that cannot keep to this say so in their header: `knot`, `decimal_literal_len`, `op_missing`, the lazy operators.)
6. Short way first, general call second. `tie_close … splitting …` normalises the whole goal again between any two splits; on a
   long body that is where the checking time goes. The short way - `simp only [<the same lemmas>, rs, tie]` once, `tie_cases <the
   deciding model values>` where they stand, `all_goals (tie_close; done)` - is much quicker on the code as it is mostly written,
   but a rewrite can spell one value in two ways that only `simp_all` brings together (then the separate splits lose the
   connection). So the short way is only ever the FIRST alternative of a `first`, with the general call from the start as the
   second. The short way must also FAIL quickly on a body whose behaviour changed, since `first` does not catch a heartbeat
   timeout: it closes leaf by leaf (`…; done`: the first leaf that stays open ends the attempt) and splits on values of MODEL
   functions only, never on a generic `==` (on a changed body that gives exponentially many leaves).
7. A literal of the source reaches the generated term in the translator's spelling (`f64`: `F64.fin false (m * 2 ^ e)`, `char`:
   `Char.ofNat 0x..`). A lemma that folds such a literal to the model's constant has that spelling as its left-hand side, and
   comes a second time without the leading `1 *` where `simp` may have normalised the product first (`TieB.lim63` and
   `lim63'` of `Tie/to_number_value.lean`, `TieC.powi_two`/`powi_two'`, `TieB.lit1e30`, `TieC.backslash`).
-/
namespace JL.Lemmas.TieAuto
open Lean Elab Tactic Meta

/-! ## `tie_cases` -/

/-- number of leading `∀`s of a constant's type -/
private def arityOf (n : Name) : MetaM Nat := do
  let rec go : Expr → Nat → Nat
    | .forallE _ _ b _, k => go b (k + 1)
    | .mdata _ b, k => go b k
    | _, k => k
  return go (← getConstInfo n).type 0

/-- a closed subterm that is a saturated application of one of the given constants -/
private def findCall (fns : Array (Name × Nat)) (e : Expr) : Option Expr :=
  e.find? fun t =>
    !t.hasLooseBVars && t.isApp &&
      (match t.getAppFn with
       | .const n _ => fns.any fun (m, k) => m == n && t.getAppNumArgs == k
       | _ => false)

/-- one round: in every goal that mentions a value of one of the functions, case-split on (the first) one. Fails when no goal does. -/
private def casesRound (fns : Array (Name × Nat)) : TacticM Unit := do
  let gs ← getUnsolvedGoals
  let mut out : Array MVarId := #[]
  let mut progressed := false
  for g in gs do
    let tgt ← instantiateMVars (← g.getType)
    match findCall fns tgt with
    | none => out := out.push g
    | some t =>
      let s ← saveState
      try
        setGoals [g]
        g.withContext do
          let stx ← Term.exprToSyntax t
          evalTactic (← `(tactic| cases $stx:term))
        out := out ++ (← getUnsolvedGoals).toArray
        progressed := true
      catch _ =>
        s.restore
        out := out.push g
  setGoals out.toList
  unless progressed do throwError "tie_cases: no value of the given functions (that can be split) occurs in the goals"

/-- `tie_cases_step f g …`: one round of `tie_cases` (fails when there is nothing to split) -/
syntax (name := tieCasesStep) "tie_cases_step" (ppSpace colGt ident)* : tactic
/-- `tie_cases f g …`: case-split on every value `f …`, `g …` occurring in the goals, until none is left -/
syntax (name := tieCases) "tie_cases" (ppSpace colGt ident)+ : tactic

private def resolveFns (ids : Array Syntax) : TacticM (Array (Name × Nat)) :=
  ids.mapM fun i => do
    let n ← realizeGlobalConstNoOverloadWithInfo i
    return (n, ← arityOf n)

@[tactic tieCasesStep] def evalTieCasesStep : Tactic := fun stx => do
  let fns ← resolveFns stx[1].getArgs
  if fns.isEmpty then throwError "tie_cases_step: nothing to split on"
  casesRound fns

@[tactic tieCases] def evalTieCases : Tactic := fun stx => do
  let fns ← resolveFns stx[1].getArgs
  -- nothing to split is not an error: the rewrite at hand may have removed the call
  -- (64 rounds: each round splits one value per goal, so this bounds the number of nested splits along one branch; it only
  -- guards against a `cases` that keeps reproducing its own scrutinee - no tie comes near it)
  let mut fuel := 64
  while fuel > 0 do
    fuel := fuel - 1
    try casesRound fns catch _ => break

/-! ## the simp set `tie`

### `Decidable` instances left behind by definitional unfolding
`simp [rs]` unfolds the library calls in the *condition* of an `if` (these are `rfl` lemmas, applied by `dsimp`), but not inside the
`Decidable` instance of that `if`, which is not visited. The term is still type correct, but `split`, `rw` and the simp lemmas
about `ite` no longer apply to it. The following simprocs put the instance that belongs to the rewritten condition back. -/

/-- `@c … p inst …` with `inst : Decidable p₀`, `p₀` definitionally but not syntactically `p`: use the instance found for `p` -/
private def fixInst (e : Expr) (propIdx instIdx : Nat) : Simp.SimpM Simp.Step := do
  let args := e.getAppArgs
  if args.size ≤ max propIdx instIdx then return .continue
  let c := args[propIdx]!
  let inst := args[instIdx]!
  let want := mkApp (mkConst ``Decidable) c
  let instType ← instantiateMVars (← inferType inst)
  if instType == want then return .continue
  let some inst' ← synthInstance? want | return .continue
  if inst' == inst then return .continue
  let e' := mkAppN e.getAppFn (args.set! instIdx inst')
  let eType ← inferType e
  let u ← getLevel eType
  let motive ← withLocalDeclD `i want fun i => mkLambdaFVars #[i] (mkAppN e.getAppFn (args.set! instIdx i))
  let sub ← synthInstance (mkApp (mkConst ``Subsingleton [Level.one]) want)
  let h := mkApp4 (mkConst ``Subsingleton.elim [Level.one]) want sub inst inst'
  let pr := mkApp6 (mkConst ``congrArg [Level.one, u]) want eType inst inst' motive h
  return .visit { expr := e', proof? := some pr }

simproc [tie] iteInst (@ite _ _ _ _ _) := fun e => fixInst e 1 2
simproc [tie] decideInst (@Decidable.decide _ _) := fun e => fixInst e 0 1

/-! ### string constants under an `if`
`simp` evaluates `"abc".toList` to `['a', 'b', 'c']` where it meets it - in the condition of an `if`, but not in the `Decidable`
instance of that `if`. It then compares the two instance types up to definitional equality, which makes the elaborator evaluate
`String.toList` on the literal (through the byte array: tens of thousands of unfoldings, a timeout). The following simprocs run
*before* `simp` descends into an `if`/`decide` and evaluate the string constants in the whole term, instance included; the
kernel checks the step by evaluation, which is immediate there. -/

private def evalStrLits (e : Expr) : Expr :=
  e.replace fun t =>
    match t with
    | .app (.const ``String.toList _) (.lit (.strVal s)) => some (toExpr s.toList)
    | _ => none

private def litsPre (e : Expr) : Simp.SimpM Simp.Step := do
  let e' := evalStrLits e
  if e' == e then return .continue
  return .visit { expr := e' }

simproc ↓ [tie] iteLits (@ite _ _ _ _ _) := litsPre
simproc ↓ [tie] diteLits (@dite _ _ _ _ _) := litsPre
simproc ↓ [tie] decideLits (@Decidable.decide _ _) := litsPre

/-! ### float comparisons: `>` and `>=` are `<` and `<=` with the operands exchanged (on both sides of a tie) -/
attribute [tie] F64.gt F64.ge

/-! ### emptiness tests: `v == ""`, `v.len() == 0`, `v.is_empty()` -/
@[tie] theorem decide_eq_nil {α : Type} (l : List α) (inst : Decidable (l = [])) : @decide (l = []) inst = l.isEmpty := by
  cases l <;> simp
@[tie] theorem decide_nil_eq {α : Type} (l : List α) (inst : Decidable ([] = l)) : @decide ([] = l) inst = l.isEmpty := by
  cases l <;> simp
@[tie] theorem decide_length_eq_zero {α : Type} (l : List α) (inst : Decidable (l.length = 0)) :
    @decide (l.length = 0) inst = l.isEmpty := by
  cases l <;> simp
@[tie] theorem length_beq_zero {α : Type} (l : List α) : (l.length == 0) = l.isEmpty := by
  cases l <;> simp
@[tie] theorem beq_nil {α : Type} [BEq α] (l : List α) : (l == []) = l.isEmpty := by
  cases l <;> rfl
@[tie] theorem nil_beq {α : Type} [BEq α] (l : List α) : (([] : List α) == l) = l.isEmpty := by
  cases l <;> rfl
@[tie] theorem decide_length_pos {α : Type} (l : List α) (inst : Decidable (0 < l.length)) :
    @decide (0 < l.length) inst = !l.isEmpty := by
  cases l <;> simp
@[tie] theorem decide_length_ne_zero {α : Type} (l : List α) (inst : Decidable (l.length ≠ 0)) :
    @decide (l.length ≠ 0) inst = !l.isEmpty := by
  cases l <;> simp
@[tie] theorem decide_ne_nil {α : Type} (l : List α) (inst : Decidable (l ≠ [])) : @decide (l ≠ []) inst = !l.isEmpty := by
  cases l <;> simp
/-- `str::len() == 0` (bytes) -/
@[tie] theorem byteLen_beq_zero (s : Str) : ((s.map Rs.utf8Len).sum == 0) = s.isEmpty := by
  rw [Bool.eq_iff_iff, beq_iff_eq, List.isEmpty_iff]; exact TieA.byteLen_eq_zero s
@[tie] theorem decide_byteLen_eq_zero (s : Str) (inst : Decidable ((s.map Rs.utf8Len).sum = 0)) :
    @decide ((s.map Rs.utf8Len).sum = 0) inst = s.isEmpty := by
  rw [Bool.eq_iff_iff, decide_eq_true_iff, List.isEmpty_iff]; exact TieA.byteLen_eq_zero s

@[tie] theorem decide_byteLen_pos (s : Str) (inst : Decidable (0 < (s.map Rs.utf8Len).sum)) :
    @decide (0 < (s.map Rs.utf8Len).sum) inst = !s.isEmpty := by
  rw [← byteLen_beq_zero, ← bne, Bool.eq_iff_iff, decide_eq_true_iff, bne_iff_ne, Nat.pos_iff_ne_zero]

/-! ### `!=` -/
@[tie] theorem not_beq_eq_bne {α : Type} [BEq α] (a b : α) : (!(a == b)) = (a != b) := rfl

/-! ### loops: a `for` loop without `break`/`return` is a left fold; pushing `f x` for every item is `map f` -/
@[tie] theorem for_next {α σ ρ : Type} (xs : List α) (s : σ) (g : σ → α → σ) :
    Rs.for_ xs s (fun s x => (Rs.Flow.next (g s x) : Rs.Flow σ ρ)) = Rs.LoopOut.done (xs.foldl g s) :=
  TieLoops.for_next g _ (fun _ _ => rfl) xs s
@[tie] theorem foldl_push {α β : Type} (xs : List α) (init : List β) (f : α → β) :
    xs.foldl (fun acc x => acc ++ [f x]) init = init ++ xs.map f :=
  TieLoops.foldl_push_map f xs init
@[tie] theorem foldl_extend {α β : Type} (xs : List α) (init : List β) (f : α → List β) :
    xs.foldl (fun acc x => acc ++ f x) init = init ++ (xs.map f).flatten := by
  induction xs generalizing init with
  | nil => simp
  | cons x xs ih => simp [ih]
/-- `TieLoops.for_try` at the return value `none` (what `let x = step?;` returns) -/
theorem for_opt {α σ τ : Type} (m : σ → α → Option σ) (f : σ → α → Rs.Flow σ (Option τ))
    (hf : ∀ s x, f s x = match m s x with | some s' => Rs.Flow.next s' | none => Rs.Flow.ret none) :
    ∀ (xs : List α) (s : σ),
      Rs.for_ xs s f = match xs.foldlM m s with | some s' => Rs.LoopOut.done s' | none => Rs.LoopOut.ret none :=
  TieLoops.for_try m none f hf
/-- `Iterator::map` on a vector (rendered with the `Functor` instance of lists) -/
@[tie] theorem list_fmap {α β : Type} (f : α → β) (xs : List α) : f <$> xs = List.map f xs := rfl

/-! ### `Option` combinators on an operand that is not (yet) a constructor term (`f <$> o` and its simp normal form `o.map f`) -/
@[tie] theorem getD_fmap {α β : Type} (o : Option α) (f : α → β) (d : β) :
    (f <$> o).getD d = match o with | some x => f x | none => d := by cases o <;> rfl
@[tie] theorem getD_map {α β : Type} (o : Option α) (f : α → β) (d : β) :
    (o.map f).getD d = match o with | some x => f x | none => d := by cases o <;> rfl

/-! ## `tie_close` -/

/-- The loop of `tie_close`. Per goal, the first alternative that applies, until none does (`repeat'` ends on a goal where every
alternative fails, and each alternative either closes its goal or replaces it by goals that `simp_all` has normalised or that
have one `match`/`if`/model value fewer, so the loop ends):
`with_reducible rfl` first, so that a leaf that is closed syntactically never pays for a `simp_all`; `simp_all`; when it makes no
progress, a split - on a value of the named model functions before a `split` on whatever `match`/`if` comes first in the term,
because the former is what the model decides on and the latter follows the shape of the code; last, `rfl` that may unfold
instances, for a leaf that differs only in an instance `simp_all` does not rewrite (never `rfl` at default transparency: on
an open leaf with floats it may start unfolding `F64.ofNat`, see `TieC`). -/
syntax "tie_close_core" " [" (Lean.Parser.Tactic.simpErase <|> Lean.Parser.Tactic.simpLemma),* "]" (" splitting" (ppSpace colGt ident)+)? : tactic
macro_rules
  | `(tactic| tie_close_core [$ls,*]) =>
      `(tactic| all_goals (repeat' (first
          | with_reducible rfl
          | simp_all [rs, tie, $ls,*]
          | split
          | with_reducible_and_instances rfl)))
  | `(tactic| tie_close_core [$ls,*] splitting $fs*) =>
      `(tactic| all_goals (repeat' (first
          | with_reducible rfl
          | simp_all [rs, tie, $ls,*]
          | tie_cases_step $fs*
          | split
          | with_reducible_and_instances rfl)))

/-- `?c` in the lemma list of `tie_close`: the constant `c` if there is one of that name, nothing otherwise. For the generated
definitions of *other* functions that the function at hand may or may not be written in terms of (`?Gen.abstract_lt` in the
tie of `abstract_gt`): a function that the translator does not render at the moment has no `Gen.` definition, and that must
not break the ties of its siblings. -/
syntax tieOptLemma := "?" ident

/-- the closing tactic of the tie theorems; see the header -/
syntax (name := tieClose) "tie_close"
  (" [" (tieOptLemma <|> Lean.Parser.Tactic.simpErase <|> Lean.Parser.Tactic.simpLemma),* "]")?
  (" splitting" (ppSpace colGt ident)+)? : tactic

@[tactic tieClose] def evalTieClose : Tactic := fun stx => do
  -- stx[1]: optional `[ … ]`, stx[2]: optional `splitting …`
  let mut keep : Array Syntax := #[]
  if stx[1].getNumArgs > 0 then
    for a in stx[1][1].getSepArgs do
      if a.getKind == ``tieOptLemma then
        let id := a[1]
        let cands ← try resolveGlobalName id.getId catch _ => pure []
        if cands.any fun (_, fields) => fields.isEmpty then
          keep := keep.push (← `(Lean.Parser.Tactic.simpLemma| $(⟨id⟩):ident))
      else
        keep := keep.push a
  let ls : Syntax.TSepArray [``Lean.Parser.Tactic.simpErase, ``Lean.Parser.Tactic.simpLemma] "," :=
    ⟨(Syntax.mkSep keep (mkAtom ",")).getArgs⟩
  if stx[2].getNumArgs > 0 then
    let fs : TSyntaxArray `ident := stx[2][1].getArgs.map (⟨·⟩)
    evalTactic (← `(tactic| tie_close_core [$ls,*] splitting $fs*))
  else
    evalTactic (← `(tactic| tie_close_core [$ls,*]))

end JL.Lemmas.TieAuto
