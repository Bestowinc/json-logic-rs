import JL.StrArr
import JL.Lemmas.Json
import JL.Lemmas.List
import JL.Lemmas.Round
import JL.Spec.DeepEq
import JL.Lemmas.F64Order
/-!
# Lemmas for C15 — `in`: the substring test is core's `<:+:`; `number_eq` / `deep_eq` against `Spec.SpecEq`;
`SpecEq` is an equivalence on well-formed values and, on sorted objects, position-by-position equality
-/
namespace JL.Lemmas.C15
open JL Json ArrOp JL.Spec

/-! ## `isPrefix`, `isInfix` are core's `<+:` and `<:+:` -/

theorem isPrefix_iff : ∀ (n h : Str), isPrefix n h = true ↔ n <+: h
  | [], h => by simp [isPrefix]
  | _ :: _, [] => by simp [isPrefix]
  | a :: as, b :: bs => by simp [isPrefix, isPrefix_iff as bs, List.cons_prefix_cons]

theorem isInfix_iff (n : Str) : ∀ h : Str, isInfix n h = true ↔ n <:+: h
  | [] => by simp [isInfix]
  | c :: cs => by rw [isInfix, Bool.or_eq_true, isPrefix_iff, isInfix_iff n cs, List.infix_cons_iff]

/-! ## `number_eq` -/

/-- `1e30_f64` is the double `1000000000000000019884624838656` -/
def K30 : Nat := 1000000000000000019884624838656

theorem F1e30_eq : F1e30 = .fin false (K30 * F64.S) := by decide +kernel

/-- `as_int` on a finite float: the integrality test `fract() == 0.0` and the `1e30` threshold, in units -/
theorem asInt_fin (s : Bool) (k : Nat) :
    asInt (.flt (.fin s k)) = if k % F64.S = 0 ∧ k < K30 * F64.S then some (F64.fin s k).truncInt else none := by
  simp only [asInt, F1e30_eq, F64.fractIsZero, F64.abs, F64.lt, Bool.false_eq_true, if_false, Bool.and_eq_true,
    beq_iff_eq, decide_eq_true_eq, Int.ofNat_lt]

/-- what `as_int` says about a well-formed number: either it is that integer exactly, below `1e30` in magnitude (every
`u64` and `i64` is; floats by the explicit test), or it is a float with a fractional part or at least `1e30` -/
theorem asInt_cases (a : Num) (wa : a.WF) :
    (∃ x, asInt a = some x ∧ numValue a = x * (F64.S : Int) ∧ x.natAbs < K30) ∨
    (asInt a = none ∧ ∃ s k, a = .flt (.fin s k) ∧ (k % F64.S ≠ 0 ∨ K30 * F64.S ≤ k)) := by
  cases a with
  | pos n => exact .inl ⟨n, rfl, rfl, Nat.lt_trans wa (by decide)⟩
  | neg m => exact .inl ⟨-m, rfl, (Int.neg_mul ..).symm, by rw [Int.natAbs_neg]; exact Nat.lt_of_le_of_lt wa.2 (by decide)⟩
  | flt f =>
    cases f with
    | nan => cases wa.1
    | inf s => cases wa.1
    | fin s k =>
      rw [asInt_fin]
      by_cases hc : k % F64.S = 0 ∧ k < K30 * F64.S
      · rw [if_pos hc]
        have hk : ((k / F64.S : Nat) : Int) * (F64.S : Int) = (k : Int) := by
          rw [← Int.natCast_mul, Nat.div_mul_cancel (Nat.dvd_of_mod_eq_zero hc.1)]
        have hlt : k / F64.S < K30 := Nat.div_lt_of_lt_mul (Nat.mul_comm .. ▸ hc.2)
        refine .inl ⟨_, rfl, ?_⟩
        cases s <;> simp only [numValue, F64.truncInt, Bool.false_eq_true, if_false, if_true, Int.neg_mul, hk,
          Int.natAbs_neg, Int.natAbs_natCast, hlt, and_self]
      · rw [if_neg hc]
        exact .inr ⟨rfl, s, k, rfl, by omega⟩

theorem natAbs_numValue_fin (s : Bool) (k : Nat) : (numValue (.flt (.fin s k))).natAbs = k := by
  cases s <;> simp [numValue]

/-- an exact integer below `1e30` and a float that is fractional or `≥ 1e30` denote different numbers -/
theorem numValue_int_ne_flt {x : Int} {s : Bool} {k : Nat} (lx : x.natAbs < K30) (hk : k % F64.S ≠ 0 ∨ K30 * F64.S ≤ k) :
    x * (F64.S : Int) ≠ numValue (.flt (.fin s k)) := by
  intro h
  have h3 : x.natAbs * F64.S = k := by
    have := congrArg Int.natAbs h
    rwa [Int.natAbs_mul, Int.natAbs_natCast, natAbs_numValue_fin] at this
  rcases hk with hk | hk
  · exact hk (h3 ▸ Nat.mul_mod_left ..)
  · rw [← h3] at hk
    exact absurd (Nat.le_of_mul_le_mul_right hk F64.S_pos) (Nat.not_le.mpr lx)

theorem eq_fin_iff (s s' : Bool) (k k' : Nat) :
    F64.eq (.fin s k) (.fin s' k') = true ↔ numValue (.flt (.fin s k)) = numValue (.flt (.fin s' k')) := by
  -- equal signs: `k = k'`. Opposite signs: `-k = k'` only at `k = k' = 0`, the signed zeros — the first disjunct of `F64.eq`
  cases s <;> cases s' <;> simp [F64.eq, numValue] <;> omega

theorem number_eq_spec (a b : Num) (wa : a.WF) (wb : b.WF) :
    numberEq a b = true ↔ numValue a = numValue b := by
  unfold numberEq
  rcases asInt_cases a wa with ⟨x, ha, va, lx⟩ | ⟨ha, s, k, rfl, hk⟩ <;>
    rcases asInt_cases b wb with ⟨y, hb, vb, ly⟩ | ⟨hb, s', k', rfl, hk'⟩ <;> rw [ha, hb]
  · rw [va, vb, beq_iff_eq]
    exact (Int.mul_eq_mul_right_iff (Int.natCast_ne_zero.mpr (Nat.ne_of_gt F64.S_pos))).symm
  · rw [va]; exact ⟨nofun, fun h => (numValue_int_ne_flt lx hk' h).elim⟩
  · rw [vb]; exact ⟨nofun, fun h => (numValue_int_ne_flt ly hk h.symm).elim⟩
  · exact eq_fin_iff s s' k k'

/-! ## object keys: strictly ascending (`strLt` is a strict order, `JL.Lemmas.F64Order`), hence distinct -/

abbrev keys (x : List (Str × Json)) : List Str := x.map Prod.fst

theorem mem_keys_iff {x : List (Str × Json)} {k : Str} : k ∈ keys x ↔ ∃ a, (k, a) ∈ x := by
  simp [keys]

theorem keysSorted_pairwise : ∀ x : List (Str × Json), keysSorted x = true →
    (keys x).Pairwise (fun k l => strLt k l = true)
  | [], _ => List.Pairwise.nil
  | [_], _ => by simp [keys]
  | (k₁, v₁) :: (k₂, v₂) :: rest, h => by
      simp only [keysSorted, Bool.and_eq_true] at h
      have ih := keysSorted_pairwise ((k₂, v₂) :: rest) h.2
      refine List.pairwise_cons.mpr ⟨fun l hl => ?_, ih⟩
      rcases List.mem_cons.mp hl with rfl | hl
      · exact h.1
      · exact F64Order.strLt_trans _ _ _ h.1 ((List.pairwise_cons.mp ih).1 l hl)

theorem nodup_of_pairwise_strLt {xs : List Str} (h : xs.Pairwise (fun k l => strLt k l = true)) : xs.Nodup :=
  h.imp fun hab e => by rw [e, F64Order.strLt_irrefl] at hab; cases hab

/-! ## `Map::get` on association lists with distinct keys -/

theorem lookup_of_mem : ∀ (y : List (Str × Json)) (k : Str) (b : Json), (keys y).Nodup → (k, b) ∈ y →
    Json.lookup k y = some b
  | [], _, _, _, h => by cases h
  | (k', v) :: rest, k, b, nd, h => by
      rw [keys, List.map_cons, List.nodup_cons] at nd
      rcases List.mem_cons.mp h with e | h
      · cases e; exact if_pos rfl
      · exact (if_neg fun (e : k' = k) => nd.1 (e ▸ mem_keys_iff.mpr ⟨b, h⟩)).trans (lookup_of_mem rest k b nd.2 h)

theorem lookup_iff_mem (y : List (Str × Json)) (k : Str) (b : Json) (nd : (keys y).Nodup) :
    Json.lookup k y = some b ↔ (k, b) ∈ y := ⟨mem_of_lookup y k b, lookup_of_mem y k b nd⟩

theorem subset_of_length_eq {xs ys : List Str} (nx : xs.Nodup) (hsub : xs ⊆ ys) (hlen : xs.length = ys.length) :
    ys ⊆ xs := by
  -- pigeonhole: a `k ∈ ys` missing from `xs` would leave the duplicate-free `xs` inside `ys.erase k`, which is one shorter
  intro k hk
  refine Classical.byContradiction fun hnot => ?_
  have hsub' : xs ⊆ ys.erase k := fun a ha => (List.mem_erase_of_ne fun (e : a = k) => hnot (e ▸ ha)).mpr (hsub ha)
  have h1 := List.Nodup.length_le_of_subset nx hsub'
  have h2 := List.length_erase_of_mem hk
  have h3 : 0 < ys.length := List.length_pos_of_mem hk
  omega

/-! ## the list helpers of `deep_eq`, unfolded (`deepEqList_eq`, `deepEqKvs_eq` read as propositions) -/

theorem deepEqKvs_iff (x y : List (Str × Json)) :
    deepEqKvs x y = true ↔ ∀ p ∈ x, ∃ b, Json.lookup p.1 y = some b ∧ deepEq p.2 b = true := by
  rw [deepEqKvs_eq, List.all_eq_true]
  refine forall_congr' fun p => forall_congr' fun _ => ?_
  unfold kvOk; cases Json.lookup p.1 y <;> simp

theorem deepEqList_iff (xs ys : List Json) : deepEqList xs ys = true ↔
    (xs.length = ys.length ∧ ∀ (i : Nat) (h₁ : i < xs.length) (h₂ : i < ys.length), deepEq xs[i] ys[i] = true) := by
  rw [deepEqList_eq, Bool.and_eq_true, beq_iff_eq]
  exact and_congr_right fun _ => all_zip_iff deepEq xs ys

theorem wf_obj (x : List (Str × Json)) (h : (Json.obj x).wf = true) :
    wfKvs x = true ∧ (keys x).Pairwise (fun k l => strLt k l = true) :=
  (wf_obj_iff.mp h).imp_right (keysSorted_pairwise x)

/-! ## `deep_eq` against the specification -/

/-- map equality of two association lists, for a relation `R` on the values: the same keys, related values under each -/
def MapEq (R : Json → Json → Prop) (x y : List (Str × Json)) : Prop :=
  (∀ k, (∃ a, (k, a) ∈ x) ↔ (∃ b, (k, b) ∈ y)) ∧ (∀ k a b, (k, a) ∈ x → (k, b) ∈ y → R a b)

theorem MapEq.keys_iff {R} {x y : List (Str × Json)} (h : MapEq R x y) (k : Str) : k ∈ keys x ↔ k ∈ keys y := by
  rw [mem_keys_iff, mem_keys_iff]; exact h.1 k

/-- objects with distinct keys: the code's test (same size, every entry of the first found in the second with a related
value) is map equality, for any relation `R` on the values -/
theorem lookups_iff_mapEq (R : Json → Json → Prop) (x y : List (Str × Json)) (nx : (keys x).Nodup) (ny : (keys y).Nodup) :
    (x.length = y.length ∧ ∀ p ∈ x, ∃ b, Json.lookup p.1 y = some b ∧ R p.2 b) ↔ MapEq R x y := by
  constructor
  · rintro ⟨hlen, h⟩
    have hsub : keys x ⊆ keys y := fun k hk => by
      obtain ⟨a, ha⟩ := mem_keys_iff.mp hk
      obtain ⟨b, hb, -⟩ := h _ ha
      exact mem_keys_iff.mpr ⟨b, mem_of_lookup y _ _ hb⟩
    have hsup : keys y ⊆ keys x := subset_of_length_eq nx hsub (by simpa [keys] using hlen)
    refine ⟨fun k => ?_, fun k a b ha hb => ?_⟩
    · rw [← mem_keys_iff, ← mem_keys_iff]; exact ⟨@hsub k, @hsup k⟩
    · obtain ⟨b', hb', r⟩ := h _ ha
      cases (lookup_of_mem y k b ny hb).symm.trans hb'
      exact r
  · intro h
    have h1 := List.Nodup.length_le_of_subset nx fun k => (h.keys_iff k).mp
    have h2 := List.Nodup.length_le_of_subset ny fun k => (h.keys_iff k).mpr
    simp only [keys, List.length_map] at h1 h2
    refine ⟨Nat.le_antisymm h1 h2, fun p hp => ?_⟩
    obtain ⟨b, hb⟩ := (h.1 p.1).mp ⟨p.2, hp⟩
    exact ⟨b, lookup_of_mem y _ _ ny hb, h.2 p.1 p.2 b hp hb⟩

theorem specEq_num_iff (a b : Num) : SpecEq (.num a) (.num b) ↔ numValue a = numValue b :=
  ⟨fun h => by cases h; assumption, .num⟩
theorem specEq_arr_iff (xs ys : List Json) : SpecEq (.arr xs) (.arr ys) ↔
    xs.length = ys.length ∧ ∀ (i : Nat) (h₁ : i < xs.length) (h₂ : i < ys.length), SpecEq xs[i] ys[i] :=
  ⟨fun h => by cases h with | arr hl h => exact ⟨hl, h⟩, fun h => .arr h.1 h.2⟩
theorem specEq_obj_iff (x y : List (Str × Json)) : SpecEq (.obj x) (.obj y) ↔ MapEq SpecEq x y :=
  ⟨fun h => by cases h with | obj hk hv => exact ⟨hk, hv⟩, fun h => .obj h.1 h.2⟩
theorem specEq_str_iff (s t : Str) : SpecEq (.str s) (.str t) ↔ s = t :=
  ⟨fun h => by cases h; rfl, fun h => h ▸ .str s⟩
theorem specEq_bool_iff (s t : Bool) : SpecEq (.bool s) (.bool t) ↔ s = t :=
  ⟨fun h => by cases h; rfl, fun h => h ▸ .bool s⟩

/-- the JSON type of a value -/
def kind : Json → Nat
  | .null => 0 | .bool _ => 1 | .num _ => 2 | .str _ => 3 | .arr _ => 4 | .obj _ => 5

/-- values of different JSON types are never equal -/
theorem specEq_kind {a b : Json} (h : SpecEq a b) : kind a = kind b := by cases h <;> rfl

/-- nor does `deep_eq` accept them (its last clause) -/
theorem deepEq_kind {a b : Json} (h : deepEq a b = true) : kind a = kind b := by
  unfold deepEq at h
  split at h <;> first | rfl | cases h

/-- `deep_eq` decides the specification on well-formed values. By induction on the first value; for two values of one
type the code's test, unfolded by the list helpers above, is the specification's clause with `deepEq` for `SpecEq` on the
parts; for values of different types both sides are false. -/
theorem deep_eq_spec (a b : Json) (wa : a.wf = true) (wb : b.wf = true) : deepEq a b = true ↔ SpecEq a b := by
  have off {a b : Json} (hk : kind a ≠ kind b) : deepEq a b = true ↔ SpecEq a b :=
    iff_of_false (mt deepEq_kind hk) (mt specEq_kind hk)
  induction a using json_induction generalizing b with
  | null =>
    cases b with
    | null => exact ⟨fun _ => .null, fun _ => by rw [deepEq]⟩
    | _ => exact off nofun
  | bool x =>
    cases b with
    | bool y => rw [deepEq, beq_iff_eq, specEq_bool_iff]
    | _ => exact off nofun
  | str x =>
    cases b with
    | str y => rw [deepEq, beq_iff_eq, specEq_str_iff]
    | _ => exact off nofun
  | num x =>
    cases b with
    | num y => rw [deepEq, specEq_num_iff]; exact number_eq_spec x y (of_decide_eq_true wa) (of_decide_eq_true wb)
    | _ => exact off nofun
  | arr xs ih =>
    cases b with
    | arr ys =>
      rw [deepEq, deepEqList_iff, specEq_arr_iff]
      exact and_congr_right fun _ => forall_congr' fun i => forall_congr' fun h₁ => forall_congr' fun h₂ =>
        ih _ (List.getElem_mem h₁) _ ((wfList_iff xs).mp wa _ (List.getElem_mem h₁)) ((wfList_iff ys).mp wb _ (List.getElem_mem h₂))
    | _ => exact off nofun
  | obj x ih =>
    cases b with
    | obj y =>
      obtain ⟨wx, sx⟩ := wf_obj x wa
      obtain ⟨wy, sy⟩ := wf_obj y wb
      rw [deepEq, Bool.and_eq_true, beq_iff_eq, deepEqKvs_iff, specEq_obj_iff,
        ← lookups_iff_mapEq SpecEq x y (nodup_of_pairwise_strLt sx) (nodup_of_pairwise_strLt sy)]
      exact and_congr_right fun _ => forall_congr' fun p => forall_congr' fun hp => exists_congr fun b =>
        and_congr_right fun hb => ih p hp b ((wfKvs_iff x).mp wx p hp) ((wfKvs_iff y).mp wy _ (mem_of_lookup y _ _ hb))
    | _ => exact off nofun

/-! ## the specification is an equivalence relation (reflexive on well-formed values) -/

theorem specEq_symm {a b : Json} (h : SpecEq a b) : SpecEq b a := by
  induction h with
  | null => exact .null
  | bool b => exact .bool b
  | str s => exact .str s
  | num hv => exact .num hv.symm
  | arr hl _ ih => exact .arr hl.symm (fun i h₁ h₂ => ih i h₂ h₁)
  | obj hk _ ih => exact .obj (fun k => (hk k).symm) (fun k a b ha hb => ih k b a hb ha)

theorem specEq_trans {a b c : Json} (h1 : SpecEq a b) (h2 : SpecEq b c) : SpecEq a c := by
  induction h1 generalizing c with
  | null => exact h2
  | bool b => exact h2
  | str s => exact h2
  | num hv => cases h2 with | num hv' => exact .num (hv.trans hv')
  | arr hl _ ih =>
    cases h2 with
    | arr hl' h' => exact .arr (hl.trans hl') (fun i h₁ h₃ => ih i h₁ (hl ▸ h₁) (h' i (hl ▸ h₁) h₃))
  | obj hk _ ih =>
    cases h2 with
    | obj hk' hv' =>
      refine .obj (fun k => (hk k).trans (hk' k)) (fun k a c ha hc => ?_)
      obtain ⟨b, hb⟩ := (hk k).mp ⟨a, ha⟩
      exact ih k a b ha hb (hv' k b c hb hc)

/-- well-formedness is used for objects only: with a key repeated under two values that are not `SpecEq` the second
clause of `SpecEq.obj` fails at that key -/
theorem specEq_refl (a : Json) (wa : a.wf = true) : SpecEq a a := by
  induction a using json_induction with
  | null => exact .null
  | bool b => exact .bool b
  | str s => exact .str s
  | num x => exact .num rfl
  | arr xs ih => exact .arr rfl fun i h₁ _ => ih _ (List.getElem_mem h₁) ((wfList_iff xs).mp wa _ (List.getElem_mem h₁))
  | obj x ih =>
    obtain ⟨wx, sx⟩ := wf_obj x wa
    refine .obj (fun k => Iff.rfl) (fun k a b ha hb => ?_)
    cases (lookup_of_mem x k a (nodup_of_pairwise_strLt sx) ha).symm.trans (lookup_of_mem x k b (nodup_of_pairwise_strLt sx) hb)
    exact ih _ ha ((wfKvs_iff x).mp wx _ ha)

/-! ## objects with sorted keys: map equality is position-by-position equality -/

/-- position-by-position: the same key and related values at every position, and the same number of entries -/
def Pointwise (R : Json → Json → Prop) : List (Str × Json) → List (Str × Json) → Prop
  | [], [] => True
  | (k, a) :: xs, (l, b) :: ys => k = l ∧ R a b ∧ Pointwise R xs ys
  | _, _ => False

/-- one entry more under a key that is new on both sides. In the code's form of map equality (`lookups_iff_mapEq`): the entry
under `k` finds `b`, the other entries look past it. -/
theorem mapEq_cons {R} {k : Str} {a b : Json} {xs ys : List (Str × Json)}
    (nx : (keys ((k, a) :: xs)).Nodup) (ny : (keys ((k, b) :: ys)).Nodup) :
    MapEq R ((k, a) :: xs) ((k, b) :: ys) ↔ R a b ∧ MapEq R xs ys := by
  have nx' := List.nodup_cons.1 nx
  have ny' := List.nodup_cons.1 ny
  have h1 : (∃ b', Json.lookup k ((k, b) :: ys) = some b' ∧ R a b') ↔ R a b := by
    simp [Json.lookup]
  have h2 : (∀ p ∈ xs, ∃ b', Json.lookup p.1 ((k, b) :: ys) = some b' ∧ R p.2 b') ↔
      ∀ p ∈ xs, ∃ b', Json.lookup p.1 ys = some b' ∧ R p.2 b' :=
    forall_congr' fun p => forall_congr' fun hp => by
      rw [Json.lookup, if_neg fun (e : k = p.1) => nx'.1 (e ▸ mem_keys_iff.mpr ⟨p.2, hp⟩)]
  rw [← lookups_iff_mapEq R _ _ nx ny, ← lookups_iff_mapEq R xs ys nx'.2 ny'.2, List.forall_mem_cons, h1, h2,
    List.length_cons, List.length_cons, Nat.add_right_cancel_iff]
  exact and_left_comm

theorem mapEq_iff_pointwise (R : Json → Json → Prop) : ∀ x y : List (Str × Json),
    (keys x).Pairwise (fun k l => strLt k l = true) → (keys y).Pairwise (fun k l => strLt k l = true) →
    (MapEq R x y ↔ Pointwise R x y)
  | [], [], _, _ => by simp [MapEq, Pointwise]
  | [], (l, b) :: ys, _, _ =>
      iff_of_false (fun h => by obtain ⟨_, ha⟩ := (h.1 l).mpr ⟨b, List.mem_cons_self⟩; cases ha) id
  | (k, a) :: xs, [], _, _ =>
      iff_of_false (fun h => by obtain ⟨_, hb⟩ := (h.1 k).mp ⟨a, List.mem_cons_self⟩; cases hb) id
  | (k, a) :: xs, (l, b) :: ys, px, py => by
      have nx := nodup_of_pairwise_strLt px
      have ny := nodup_of_pairwise_strLt py
      rw [keys, List.map_cons, List.pairwise_cons] at px py
      -- the first key is the least one on either side, and equal key sets have the same least element
      have head (h : MapEq R ((k, a) :: xs) ((l, b) :: ys)) : k = l := by
        rcases List.mem_cons.mp ((h.keys_iff k).mp List.mem_cons_self) with e | hk
        · exact e
        rcases List.mem_cons.mp ((h.keys_iff l).mpr List.mem_cons_self) with e | hl
        · exact e.symm
        have := F64Order.strLt_asymm _ _ (px.1 l hl)
        rw [py.1 k hk] at this; cases this
      rw [Pointwise, ← mapEq_iff_pointwise R xs ys px.2 py.2]
      constructor
      · intro h
        obtain rfl := head h
        exact ⟨rfl, (mapEq_cons nx ny).mp h⟩
      · rintro ⟨rfl, h⟩
        exact (mapEq_cons nx ny).mpr h

theorem specEq_obj_sorted (x y : List (Str × Json)) (wx : (Json.obj x).wf = true) (wy : (Json.obj y).wf = true) :
    SpecEq (.obj x) (.obj y) ↔ Pointwise SpecEq x y :=
  (specEq_obj_iff x y).trans (mapEq_iff_pointwise SpecEq x y (wf_obj x wx).2 (wf_obj y wy).2)

end JL.Lemmas.C15
