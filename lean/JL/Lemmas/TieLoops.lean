import JL.Rs
/-!
# Loops of translated code, whatever way they are spelled

The translator renders a Rust `for` loop as `Rs.for_ items state body` (the body answers `Rs.Flow.next/brk/ret`), an iterator
`fold` as `Rs.fold` (= `List.foldl`), `any`/`all` as `Rs.any`/`Rs.all` (= `List.any`/`List.all`, which is what `simp [rs]`
leaves). A maintainer may turn any of these into any other without changing what the function computes. The lemmas here
bring every one of these spellings to ONE canonical form chosen by the *model* (`List.foldl g`, `List.foldlM m` in `Option`,
`List.any p`, `List.all p`, or a recursive specification), for an ARBITRARY body / step function: what the body does in one
iteration is a hypothesis (a "step equation"), to be proved in the tie file by case analysis and `simp [rs, …]`. Nothing here
mentions generated code, and nothing but the last section (`merge`) mentions the model. The list of spellings is complete on
purpose, not trimmed to what the ties call on the source as it stands: which spelling a function uses changes with a
behaviour-preserving rewrite (the stored ones are under `seeded/refactors*`), so a lemma here may have no caller today.

Conventions: the model-side step (`g`, `m`, `p`) is given explicitly or found by unification with the model side of the goal;
the body is always found by unification with the goal; the step equation is the side goal named `hb` (and `hn` for "the fold
keeps `none`"). The loop lemmas for one function each in `TieC`, `TieD`, `TieE`, `TieG` call theirs `hf` / `hg`.

Two traps that shape this file:
* every lemma rewrites the LOOP ITSELF (`Rs.for_ xs s body = …`, to be used with `rw`), never the `match … with | ret r => … | done s
  => …` the translator wraps around it: the `match` of a lemma and the `match` of a generated definition are different auxiliary
  matchers and do not unify; after the rewrite the wrapper reduces by `simp`/`rfl`/`cases`;
* a lemma named inside a `macro_rules` quotation must be declared BEFORE the macro (otherwise that alternative silently fails).
-/
namespace JL.Lemmas.TieLoops
open JL
set_option linter.unusedVariables false  -- hypotheses are named (`hb`, `hn`) so that the tie files can address the side goals by name

/-! ## `Rs.for_` against a recursive specification (the most general form) -/

/-- a function that satisfies the defining equations of the loop is the loop -/
theorem for_spec {α σ ρ : Type} (body : σ → α → Rs.Flow σ ρ) (spec : List α → σ → Rs.LoopOut σ ρ)
    (hnil : ∀ s, spec [] s = .done s)
    (hcons : ∀ x xs s, spec (x :: xs) s =
      match body s x with
      | .next s' => spec xs s'
      | .brk s' => .done s'
      | .ret r => .ret r) :
    ∀ (xs : List α) (s : σ), Rs.for_ xs s body = spec xs s
  | [], s => by rw [hnil]; rfl
  | x :: xs, s => by
      rw [hcons, Rs.for_]
      cases body s x with
      | next s' => exact for_spec body spec hnil hcons xs s'
      | brk s' => rfl
      | ret r => rfl

@[simp] theorem for_nil {α σ ρ : Type} (s : σ) (body : σ → α → Rs.Flow σ ρ) : Rs.for_ [] s body = .done s := rfl

theorem for_cons {α σ ρ : Type} (x : α) (xs : List α) (s : σ) (body : σ → α → Rs.Flow σ ρ) :
    Rs.for_ (x :: xs) s body =
      match body s x with
      | .next s' => Rs.for_ xs s' body
      | .brk s' => .done s'
      | .ret r => .ret r := rfl

theorem for_congr {α σ ρ : Type} (body body' : σ → α → Rs.Flow σ ρ) (hb : ∀ s x, body s x = body' s x)
    (xs : List α) (s : σ) : Rs.for_ xs s body = Rs.for_ xs s body' := by
  have : body = body' := by funext s x; exact hb s x
  rw [this]

/-! ## a body that never leaves the loop: `List.foldl` -/

theorem for_next {α σ ρ : Type} (g : σ → α → σ) (body : σ → α → Rs.Flow σ ρ)
    (hb : ∀ s x, body s x = .next (g s x)) :
    ∀ (xs : List α) (s : σ), Rs.for_ xs s body = .done (xs.foldl g s)
  | [], _ => rfl
  | x :: xs, s => by rw [for_cons, hb]; exact for_next g body hb xs (g s x)

/-! ## a body that may leave by `return` (in particular by `?`): `List.foldlM` in `Option` -/

/-- every iteration either goes on with a new state or returns the fixed value `r` (what `expr?` does with `r = None`):
the loop is the monadic left fold of the `Option`-valued step -/
theorem for_try {α σ ρ : Type} (m : σ → α → Option σ) (r : ρ) (body : σ → α → Rs.Flow σ ρ)
    (hb : ∀ s x, body s x = match m s x with
      | some s' => .next s'
      | none => .ret r) :
    ∀ (xs : List α) (s : σ), Rs.for_ xs s body = match xs.foldlM m s with
      | some s' => .done s'
      | none => .ret r
  | [], _ => rfl
  | x :: xs, s => by
      rw [for_cons, hb, List.foldlM_cons]
      cases m s x with
      | none => rfl
      | some s' => exact for_try m r body hb xs s'

/-- a step that returns *some value depending on where it failed*: `Except`-valued model step -/
theorem for_except {α σ ρ : Type} (m : σ → α → Except ρ σ) (body : σ → α → Rs.Flow σ ρ)
    (hb : ∀ s x, body s x = match m s x with
      | .ok s' => .next s'
      | .error r => .ret r) :
    ∀ (xs : List α) (s : σ), Rs.for_ xs s body = match xs.foldlM m s with
      | .ok s' => .done s'
      | .error r => .ret r
  | [], _ => rfl
  | x :: xs, s => by
      rw [for_cons, hb, List.foldlM_cons]
      cases m s x with
      | error r => rfl
      | ok s' => exact for_except m body hb xs s'

/-! ## `break` on the first hit: `any`, `all`, `find` -/

/-- the general form: the state is left alone until an item satisfies `p`; then the loop ends with `hit` of that item -/
theorem for_find {α σ ρ : Type} (p : α → Bool) (hit : σ → α → σ) (body : σ → α → Rs.Flow σ ρ)
    (hb : ∀ s x, body s x = if p x then .brk (hit s x) else .next s) :
    ∀ (xs : List α) (s : σ), Rs.for_ xs s body = .done (match xs.find? p with
      | some x => hit s x
      | none => s)
  | [], _ => rfl
  | x :: xs, s => by
      rw [for_cons, hb, List.find?_cons]
      cases p x with
      | true => rfl
      | false => exact for_find p hit body hb xs s

/-- `let mut found = false; for x in xs { if p(x) { found = true; break; } }` is `xs.iter().any(p)`; only the iterations that
start with the flag down matter -/
theorem for_any {α ρ : Type} (p : α → Bool) (body : Bool → α → Rs.Flow Bool ρ)
    (hb : ∀ x, body false x = if p x then .brk true else .next false) :
    ∀ (xs : List α), Rs.for_ xs false body = .done (xs.any p)
  | [] => rfl
  | x :: xs => by
      rw [for_cons, hb, List.any_cons]
      cases p x with
      | true => rfl
      | false => exact for_any p body hb xs

/-- the same loop written without `break` (`if p(x) { found = true; }`, or `found = found || p(x)`, or `found |= p(x)`);
the item is quantified first, so that the step equation starts with the same `intro x` as that of `for_any` -/
theorem for_any_nobreak {α ρ : Type} (p : α → Bool) (body : Bool → α → Rs.Flow Bool ρ)
    (hb : ∀ x b, body b x = .next (b || p x)) (xs : List α) (b : Bool) :
    Rs.for_ xs b body = .done (b || xs.any p) := by
  rw [for_next (fun b x => b || p x) body (fun b x => hb x b)]
  congr 1
  induction xs generalizing b with
  | nil => simp
  | cons x xs ih => simp [ih, Bool.or_assoc]

/-- `let mut ok = true; for x in xs { ok = ok && p(x); }` -/
theorem for_all_nobreak {α ρ : Type} (p : α → Bool) (body : Bool → α → Rs.Flow Bool ρ)
    (hb : ∀ x b, body b x = .next (b && p x)) (xs : List α) (b : Bool) :
    Rs.for_ xs b body = .done (b && xs.all p) := by
  rw [for_next (fun b x => b && p x) body (fun b x => hb x b)]
  congr 1
  induction xs generalizing b with
  | nil => simp
  | cons x xs ih => simp [ih, Bool.and_assoc]

/-- `let mut ok = true; for x in xs { if !p(x) { ok = false; break; } }` is `xs.iter().all(p)` -/
theorem for_all {α ρ : Type} (p : α → Bool) (body : Bool → α → Rs.Flow Bool ρ)
    (hb : ∀ x, body true x = if p x then .next true else .brk false) :
    ∀ (xs : List α), Rs.for_ xs true body = .done (xs.all p)
  | [] => rfl
  | x :: xs => by
      rw [for_cons, hb, List.all_cons]
      cases p x with
      | false => rfl
      | true => exact for_all p body hb xs

/-- `iter.any(q)` with the predicate spelled differently -/
theorem any_congr {α : Type} (p q : α → Bool) (hb : ∀ x, q x = p x) (l : List α) : Rs.any l q = l.any p := by
  have : q = p := by funext x; exact hb x
  rw [this]; rfl
theorem list_any_congr {α : Type} (p q : α → Bool) (hb : ∀ x, q x = p x) (l : List α) : l.any q = l.any p := by
  have : q = p := by funext x; exact hb x
  rw [this]
/-- `iter.all(q)` with the predicate spelled differently -/
theorem all_congr {α : Type} (p q : α → Bool) (hb : ∀ x, q x = p x) (l : List α) : Rs.all l q = l.all p := by
  have : q = p := by funext x; exact hb x
  rw [this]; rfl
theorem list_all_congr {α : Type} (p q : α → Bool) (hb : ∀ x, q x = p x) (l : List α) : l.all q = l.all p := by
  have : q = p := by funext x; exact hb x
  rw [this]

/-- `for x in xs { if !p(x) { return r; } }` with nothing else in the body -/
theorem for_all_ret {α σ ρ : Type} (p : α → Bool) (r : ρ) (body : σ → α → Rs.Flow σ ρ)
    (hb : ∀ s x, body s x = if p x then .next s else .ret r) :
    ∀ (xs : List α) (s : σ), Rs.for_ xs s body = if xs.all p then .done s else .ret r
  | [], _ => rfl
  | x :: xs, s => by
      rw [for_cons, hb, List.all_cons]
      cases p x with
      | false => rfl
      | true => simpa using for_all_ret p r body hb xs s

/-- `for x in xs { if p(x) { return r; } }` with nothing else in the body; the item is quantified first, so that the step equation
starts with the same `intro x` as that of `for_any` -/
theorem for_any_ret' {α σ ρ : Type} (p : α → Bool) (r : ρ) (body : σ → α → Rs.Flow σ ρ)
    (hb : ∀ x s, body s x = if p x then .ret r else .next s) (xs : List α) (s : σ) :
    Rs.for_ xs s body = if xs.any p then .ret r else .done s := by
  induction xs with
  | nil => rfl
  | cons x xs ih =>
      rw [for_cons, hb, List.any_cons]
      cases p x with
      | true => rfl
      | false => simpa using ih

/-! ## one entry point for the spellings of a search

`rs_loop_any_ret p r => tac` rewrites whichever of `iter.any(q)`, `for x in iter { if q(x) { found = true; break; } }`, the same
without `break` (`found = found || q(x)`), `for x in iter { if q(x) { return r; } } …` (`r`: what the model answers when the search
succeeds) occurs in the goal into `List.any p` (`p`: the model's predicate) and proves the step equation `hb` (`∀ x, …`) with `tac`
- a spelling whose step equation `tac` cannot prove is not the one in the goal, and the next one is tried. -/
syntax "rs_loop_any_ret " term:max term:max " => " tacticSeq : tactic
macro_rules
  | `(tactic| rs_loop_any_ret $p $r => $tac) => `(tactic|
      ((try dsimp only)
       (first
          | (rw [JL.Lemmas.TieLoops.any_congr $p]; case hb => $tac)
          | (rw [JL.Lemmas.TieLoops.for_any $p]; case hb => $tac)
          | (rw [JL.Lemmas.TieLoops.for_any_nobreak $p]; case hb => $tac)
          | (rw [JL.Lemmas.TieLoops.for_any_ret' $p $r]; case hb => $tac)
          | (rw [JL.Lemmas.TieLoops.list_any_congr $p]; case hb => $tac))))
/-! ## the same for a predicate that is only known on the items of the list

A function that recurses through the closure of `all`/`any`/a loop body (`deep_eq`) has an induction hypothesis for the items
that actually occur only. The step equations below are therefore asked for members of the list. -/

theorem all_mem_congr {α : Type} (p q : α → Bool) : ∀ (l : List α) (hb : ∀ x ∈ l, q x = p x), Rs.all l q = l.all p
  | [], _ => rfl
  | x :: xs, h => by
      have ih := all_mem_congr p q xs (fun y hy => h y (List.mem_cons_of_mem _ hy))
      simp only [Rs.all] at ih ⊢
      simp only [List.all_cons, h x List.mem_cons_self, ih]

theorem list_all_mem_congr {α : Type} (p q : α → Bool) (l : List α) (hb : ∀ x ∈ l, q x = p x) : l.all q = l.all p :=
  all_mem_congr p q l hb

/-- `for x in xs { if !p(x) { ok = false; break; } }`, `p` known on the items -/
theorem for_all_mem {α ρ : Type} (p : α → Bool) (body : Bool → α → Rs.Flow Bool ρ) :
    ∀ (xs : List α) (hb : ∀ x ∈ xs, body true x = if p x then .next true else .brk false),
      Rs.for_ xs true body = .done (xs.all p)
  | [], _ => rfl
  | x :: xs, hb => by
      rw [for_cons, hb x List.mem_cons_self, List.all_cons]
      cases p x with
      | false => rfl
      | true => exact for_all_mem p body xs (fun y hy => hb y (List.mem_cons_of_mem _ hy))

/-- `for x in xs { ok = ok && p(x); }`, `p` known on the items -/
theorem for_all_nobreak_mem {α ρ : Type} (p : α → Bool) (body : Bool → α → Rs.Flow Bool ρ) :
    ∀ (xs : List α) (b : Bool) (hb : ∀ x ∈ xs, ∀ b, body b x = .next (b && p x)),
      Rs.for_ xs b body = .done (b && xs.all p)
  | [], b, _ => by simp
  | x :: xs, b, hb => by
      rw [for_cons, hb x List.mem_cons_self]
      show Rs.for_ xs (b && p x) body = _
      rw [for_all_nobreak_mem p body xs _ (fun y hy => hb y (List.mem_cons_of_mem _ hy)), List.all_cons, Bool.and_assoc]

/-- `for x in xs { if !p(x) { return r; } }`, `p` known on the items -/
theorem for_all_ret_mem {α σ ρ : Type} (p : α → Bool) (r : ρ) (body : σ → α → Rs.Flow σ ρ) :
    ∀ (xs : List α) (s : σ) (hb : ∀ x ∈ xs, ∀ s, body s x = if p x then .next s else .ret r),
      Rs.for_ xs s body = if xs.all p then .done s else .ret r
  | [], _, _ => rfl
  | x :: xs, s, hb => by
      rw [for_cons, hb x List.mem_cons_self, List.all_cons]
      cases p x with
      | false => rfl
      | true => simpa using for_all_ret_mem p r body xs s (fun y hy => hb y (List.mem_cons_of_mem _ hy))

/-- `rs_loop_all_mem p r => tac`: whichever of `iter.all(q)`, a `for` loop with a flag (with or without `break`), a `for` loop
that returns `r` at the first miss, occurs in the goal becomes `List.all p`; `tac` proves the step equation, which starts with
`intro x hx` (`hx`: `x` is an item of the list) -/
syntax "rs_loop_all_mem " term:max term:max " => " tacticSeq : tactic
macro_rules
  | `(tactic| rs_loop_all_mem $p $r => $tac) => `(tactic|
      ((try dsimp only)
       (first
          | (rw [JL.Lemmas.TieLoops.all_mem_congr $p]; case hb => $tac)
          | (rw [JL.Lemmas.TieLoops.for_all_mem $p]; case hb => $tac)
          | (rw [JL.Lemmas.TieLoops.for_all_nobreak_mem $p]; case hb => $tac)
          | (rw [JL.Lemmas.TieLoops.for_all_ret_mem $p $r]; case hb => $tac)
          | (rw [JL.Lemmas.TieLoops.list_all_mem_congr $p]; case hb => $tac))))

/-! ## `fold` with an `Option` (`Result`) accumulator: `List.foldlM` in `Option` -/

theorem foldl_none {α β : Type} (step : Option β → α → Option β) (hn : ∀ c, step none c = none) (l : List α) :
    l.foldl step none = none := by
  induction l with
  | nil => rfl
  | cons a l ih => simp [hn, ih]

/-- `iter.fold(Some(init), step)` with a `step` that propagates the first failure is a monadic fold, from any accumulator -/
theorem foldl_opt {α β : Type} (m : β → α → Option β) (step : Option β → α → Option β)
    (hn : ∀ c, step none c = none) (hb : ∀ a v, step (some a) v = m a v) (l : List α) (acc : Option β) :
    l.foldl step acc = acc.bind (fun init => l.foldlM m init) := by
  induction l generalizing acc with
  | nil => cases acc <;> rfl
  | cons v vs ih =>
      cases acc with
      | none => simp [foldl_none step hn]
      | some a => simp only [List.foldl_cons, List.foldlM_cons, hb, ih]; rfl

/-- the same for `Rs.fold`, with the initial accumulator present -/
theorem fold_opt_some {α β : Type} (m : β → α → Option β) (step : Option β → α → Option β)
    (hn : ∀ c, step none c = none) (hb : ∀ a v, step (some a) v = m a v) (l : List α) (init : β) :
    Rs.fold l (some init) step = l.foldlM m init := by
  rw [Rs.fold, foldl_opt m step hn hb]; rfl

theorem list_fmap {α β : Type} (g : α → β) (l : List α) : g <$> l = l.map g := rfl

/-- `iter.map(f).fold(Some(init), step)` -/
theorem fold_map_opt {α β γ : Type} (m : β → α → Option β) (f : α → γ) (step : Option β → γ → Option β)
    (hn : ∀ c, step none c = none) (hb : ∀ a v, step (some a) (f v) = m a v) (l : List α) (init : β) :
    Rs.fold (Rs.map l f) (some init) step = l.foldlM m init := by
  rw [Rs.fold, Rs.map, list_fmap, List.foldl_map, foldl_opt m (fun a v => step a (f v)) (fun c => hn (f c)) hb]; rfl

/-- `fold_opt_some` after `Rs.fold` has been unfolded (`simp [rs]`) -/
theorem foldl_opt_some {α β : Type} (m : β → α → Option β) (step : Option β → α → Option β)
    (hn : ∀ c, step none c = none) (hb : ∀ a v, step (some a) v = m a v) (l : List α) (init : β) :
    l.foldl step (some init) = l.foldlM m init := by
  rw [foldl_opt m step hn hb]; rfl

theorem foldl_map_opt {α β γ : Type} (m : β → α → Option β) (f : α → γ) (step : Option β → γ → Option β)
    (hn : ∀ c, step none c = none) (hb : ∀ a v, step (some a) (f v) = m a v) (l : List α) (init : β) :
    (l.map f).foldl step (some init) = l.foldlM m init := by
  rw [List.foldl_map, foldl_opt m (fun a v => step a (f v)) (fun c => hn (f c)) hb]; rfl

/-- a monadic fold is a monadic fold (the step function may be spelled differently) -/
theorem foldlM_opt_congr {α β : Type} (m m' : β → α → Option β) (h : ∀ a x, m a x = m' a x) (xs : List α) (a : β) :
    xs.foldlM m a = xs.foldlM m' a := by
  have : m = m' := by funext a x; exact h a x
  rw [this]

/-- a plain fold is a plain fold (the step function may be spelled differently) -/
theorem fold_congr {α β : Type} (g step : β → α → β) (hb : ∀ a v, step a v = g a v) (l : List α) (init : β) :
    Rs.fold l init step = l.foldl g init := by
  have : step = g := by funext a v; exact hb a v
  rw [this]; rfl


/-! ## one entry point for the three spellings of an `Option`-accumulating loop

`rs_loop_opt m` rewrites whichever of `iter.map(f).fold(Some(init), step)`, `iter.fold(Some(init), step)`,
`for x in iter { … e? … }` occurs in the goal into `List.foldlM m` (`m`: the model's step), closes what does not depend on the
spelling (`hn`: the fold keeps `None`; the `match` around a `for` loop), and leaves the step equation `hb`
(`∀ a v, <one iteration of the translated code> = <m a v>`), to be proved by `intro a v`, case analysis on what `m` looks at,
and `simp [rs, …]`. -/
syntax "rs_loop_opt " term:max : tactic
macro_rules
  | `(tactic| rs_loop_opt $m) => `(tactic|
      ((try dsimp only)
       (first
          | rw [JL.Lemmas.TieLoops.fold_map_opt $m]
          | rw [JL.Lemmas.TieLoops.fold_opt_some $m]
          | rw [JL.Lemmas.TieLoops.foldl_map_opt $m]
          | rw [JL.Lemmas.TieLoops.foldl_opt_some $m]
          | rw [JL.Lemmas.TieLoops.for_try $m none])
       (try case hn => intro c; first | rfl | simp [rs])
       (try (first | rfl | (cases List.foldlM $m _ _ <;> rfl)))))

theorem foldl_congr {α β : Type} (g step : β → α → β) (hb : ∀ a v, step a v = g a v) (l : List α) (init : β) :
    l.foldl step init = l.foldl g init := by
  have : step = g := by funext a v; exact hb a v
  rw [this]

/-! ## one entry point for the spellings of a plain accumulation

`rs_loop_foldl g` rewrites whichever of `iter.fold(init, step)`, `for x in iter { … }` (a body that neither breaks nor returns)
occurs in the goal into `List.foldl g` (`g`: the model's step) and leaves the step equation `hb`. -/
syntax "rs_loop_foldl " term:max : tactic
macro_rules
  | `(tactic| rs_loop_foldl $g) => `(tactic|
      ((try dsimp only)
       (first
          | rw [JL.Lemmas.TieLoops.fold_congr $g]
          | rw [JL.Lemmas.TieLoops.for_next $g]
          | rw [JL.Lemmas.TieLoops.foldl_congr $g])))

/-- pushing `f x` for every item appends the mapped list -/
theorem foldl_push_map {α β : Type} (f : α → β) (xs : List α) (acc : List β) :
    xs.foldl (fun a x => a ++ [f x]) acc = acc ++ xs.map f := by
  induction xs generalizing acc with
  | nil => simp
  | cons x xs ih => simp [ih]

/-- pushing the items one by one appends the list -/
theorem foldl_push {α : Type} (xs : List α) (acc : List α) : xs.foldl (fun a x => a ++ [x]) acc = acc ++ xs := by
  simpa using foldl_push_map id xs acc

/-- `let mut out = …; for x in xs { out.push(f(x)); }` is `xs.iter().map(f).collect()` appended to `out`. Here `f` is NOT
given: it is read off the body when the step equation `hb` is proved by `intro acc x; rfl` (or after `simp only [rs]`), which
must therefore be done before the main goal is touched. -/
theorem for_push_map {α β ρ : Type} (f : α → β) (body : List β → α → Rs.Flow (List β) ρ)
    (hb : ∀ acc x, body acc x = .next (acc ++ [f x])) (xs : List α) (acc : List β) :
    Rs.for_ xs acc body = .done (acc ++ xs.map f) := by
  rw [for_next (fun a x => a ++ [f x]) body hb, foldl_push_map]

/-! ## the accumulation of `merge`

The steps of the model's own folds are named where the model function is reasoned about (`JsOp.maxStep` … in `Lemmas/C10`,
`Data.step` with `walk_eq_foldlM` in `Lemmas/C11`). `ArrOp.merge` is a `flatMap` and nothing else reads it as a left fold, so
its step is here: `rs_loop_foldl mergeStep` brings the loop to `List.foldl mergeStep`, and `foldl_mergeStep` is the model side. -/

/-- one step of `merge`: an array operand is spliced in, any other operand is appended -/
def mergeStep (acc : List Json) (i : Json) : List Json :=
  acc ++ (match i with
    | .arr xs => xs
    | v => [v])

theorem foldl_mergeStep (items : List Json) (acc : List Json) : items.foldl mergeStep acc = acc ++ ArrOp.merge items := by
  induction items generalizing acc with
  | nil => simp [ArrOp.merge]
  | cons i is ih =>
      rw [List.foldl_cons, ih]
      cases i <;> simp [mergeStep, ArrOp.merge, List.append_assoc]

end JL.Lemmas.TieLoops
