import JL.Rs
import JL.Lemmas.StrNum
import JL.Lemmas.Utf8
import JL.Lemmas.TieA
/-!
# Byte-level scanning of a UTF-8 encoded string = character-level scanning, as far as the scan only crosses ASCII

`str::len` counts bytes: on a string that is entirely an unsigned decimal literal, hence ASCII, it is the character count
(`TieA.literal_len_bytes`).

`decimal_literal_len` (src/js_op.rs) scans `s.as_bytes()`; the model scans the characters. This file relates
`takeWhile` / `drop` / `[i]?` on `Spec.Utf8.encode s` with the same operations on `s`, from the ASCII row of the encoding
(`Utf8.encode_cons_ascii`: one byte, the code; `Utf8.encode_cons_big`: any other character starts with a byte `≥ 128`):

* the digit run of the bytes is as long as the digit run of the characters (`dlB_encode`);
* dropping `n` bytes is dropping `n` characters when these are ASCII (`drop_encode_ascii`, `drop_encode_digitsLen`);
* a byte-level mantissa scan `mantB` and exponent scan `expB`, written in the shape of the Rust code, agree with
  `StrNum.mantScan` and `StrNum.expScan` on encodings (`mantB_encode`, `expB_encode`, `drop_encode_mant`).
-/
namespace JL.Lemmas.TieA
open JL JL.JsOp JL.Spec JL.Lemmas.StrNum JL.Lemmas.RoundTrip

/-! ## a whole decimal literal is ASCII: its byte length is its character count -/

theorem digit_ascii (c : Char) (h : isDigit c = true) : c.toNat < 128 := by
  have := (isDigit_iff c).mp h; omega

/-- a string that `decimal_literal_len` consumes entirely is ASCII -/
theorem ascii_of_full_literal (u : Str) (h : decimalLiteralLen u = u.length) : ∀ c ∈ u, c.toNat < 128 := by
  rcases lit_spec u with ⟨-, h0⟩ | ⟨m, e, rest, L, -, rfl, hL, hlen⟩
  · obtain rfl : u = [] := List.length_eq_zero_iff.mp (h0 ▸ h).symm
    exact nofun
  · obtain rfl : rest = [] := by simpa [hlen] using h
    intro c hc
    exact numChar_lt c (decLit_numChars false hL c (by simpa using hc))

theorem decimalLiteralLen_le (u : Str) : decimalLiteralLen u ≤ u.length := by
  rcases lit_spec u with ⟨-, h0⟩ | ⟨m, e, rest, L, -, rfl, -, hlen⟩
  · exact h0 ▸ Nat.zero_le _
  · rw [hlen, List.length_append]; exact Nat.le_add_right _ _

/-- the byte-length test of the Rust code is the character-count test of the model -/
theorem literal_len_bytes (u : Str) : decimalLiteralLen u = byteLen u ↔ decimalLiteralLen u = u.length := by
  have h1 := decimalLiteralLen_le u
  have h2 := length_le_byteLen u
  constructor
  · intro h; omega
  · intro h
    rw [byteLen_ascii u (ascii_of_full_literal u h)]; exact h

theorem literal_len_bytes_beq (u : Str) :
    (decimalLiteralLen u == Rs.len u) = (decimalLiteralLen u == u.length) := by
  rw [Bool.eq_iff_iff]; simp [len_str, literal_len_bytes]

end JL.Lemmas.TieA

namespace JL.Lemmas.TieI
open JL JL.JsOp JL.Spec.Utf8 JL.Lemmas.Utf8 JL.Lemmas.StrNum

/-! ## digit runs -/

/-- `u8::is_ascii_digit` -/
def isDigB (b : Nat) : Bool := decide (48 ≤ b) && decide (b ≤ 57)

/-- number of leading digit bytes -/
def dlB (bs : List Nat) : Nat := (bs.takeWhile isDigB).length

theorem isDigB_toNat (c : Char) : isDigB c.toNat = isDigit c := by
  have := isDigit_iff c
  cases h : isDigit c
  · simp only [isDigB, Bool.and_eq_false_iff, decide_eq_false_iff_not]
    simp only [h, Bool.false_eq_true, false_iff] at this
    omega
  · simp only [isDigB, Bool.and_eq_true, decide_eq_true_eq]
    exact this.mp h

theorem isDigB_big (b : Nat) (h : 128 ≤ b) : isDigB b = false := by
  simp only [isDigB, Bool.and_eq_false_iff, decide_eq_false_iff_not]; omega

theorem isDigit_big (c : Char) (h : ¬ c.toNat < 128) : isDigit c = false := by
  cases h' : isDigit c
  · rfl
  · exact absurd (TieA.digit_ascii c h') h

@[simp] theorem dlB_nil : dlB [] = 0 := rfl

theorem dlB_cons_pos (b : Nat) (bs : List Nat) (h : isDigB b = true) : dlB (b :: bs) = dlB bs + 1 := by
  simp [dlB, h]

theorem dlB_cons_neg (b : Nat) (bs : List Nat) (h : isDigB b = false) : dlB (b :: bs) = 0 := by
  simp [dlB, h]

@[simp] theorem digitsLen_nil : digitsLen [] = 0 := rfl

theorem digitsLen_cons_pos (c : Char) (s : Str) (h : isDigit c = true) : digitsLen (c :: s) = digitsLen s + 1 := by
  simp [digitsLen, h]

theorem digitsLen_cons_neg (c : Char) (s : Str) (h : isDigit c = false) : digitsLen (c :: s) = 0 := by
  simp [digitsLen, h]

theorem dlB_encode : ∀ s : Str, dlB (encode s) = digitsLen s
  | [] => rfl
  | c :: s => by
    by_cases hc : c.toNat < 128
    · rw [encode_cons_ascii c s hc]
      cases hd : isDigit c
      · rw [dlB_cons_neg _ _ (by rw [isDigB_toNat, hd]), digitsLen_cons_neg _ _ hd]
      · rw [dlB_cons_pos _ _ (by rw [isDigB_toNat, hd]), digitsLen_cons_pos _ _ hd, dlB_encode s]
    · obtain ⟨b, r, e, hb⟩ := encode_cons_big c s hc
      rw [e, dlB_cons_neg _ _ (isDigB_big b hb), digitsLen_cons_neg _ _ (isDigit_big c hc)]

/-! ## dropping bytes -/

/-- dropping `n` bytes is dropping `n` characters when the first `n` characters are ASCII -/
theorem drop_encode_ascii : ∀ (n : Nat) (s : Str), (∀ c ∈ s.take n, c.toNat < 128) →
    (encode s).drop n = encode (s.drop n)
  | 0, _, _ => rfl
  | _ + 1, [], _ => rfl
  | n + 1, c :: s, h => by
    have hc : c.toNat < 128 := h c (by simp)
    rw [encode_cons_ascii c s hc, List.drop_succ_cons, List.drop_succ_cons]
    exact drop_encode_ascii n s (fun d hd => h d (by simp [hd]))

theorem drop_encode_digitsLen (s : Str) : (encode s).drop (digitsLen s) = encode (s.drop (digitsLen s)) := by
  apply drop_encode_ascii
  rw [take_digitsLen]
  intro c hc
  exact TieA.digit_ascii c (mem_takeWhile_digit s c hc)

/-! ## the scans of `decimal_literal_len` on bytes -/

/-- mantissa scan on bytes: (number of mantissa digits, end of the mantissa) -/
def mantB (B : List Nat) : Nat × Nat :=
  if (B.drop (dlB B))[0]? = some 46 then
    if dlB B + dlB (B.drop (dlB B + 1)) > 0 then
      (dlB B + dlB (B.drop (dlB B + 1)), dlB B + 1 + dlB (B.drop (dlB B + 1)))
    else (dlB B + dlB (B.drop (dlB B + 1)), dlB B)
  else (dlB B, dlB B)

/-- exponent scan on bytes: length of the exponent part at the head of `B`, 0 if there is none -/
def expB (B : List Nat) : Nat :=
  if B[0]? = some 101 ∨ B[0]? = some 69 then
    if B[1]? = some 43 ∨ B[1]? = some 45 then
      if dlB (B.drop 2) > 0 then 2 + dlB (B.drop 2) else 0
    else
      if dlB (B.drop 1) > 0 then 1 + dlB (B.drop 1) else 0
  else 0

theorem head_ascii (c : Char) (s : Str) (h : c.toNat < 128) (b : Nat) :
    (encode (c :: s))[0]? = some b ↔ c.toNat = b := by
  rw [encode_cons_ascii c s h]; simp

theorem head_big (c : Char) (s : Str) (h : ¬ c.toNat < 128) (b : Nat) (hb : b < 128) :
    (encode (c :: s))[0]? ≠ some b := by
  obtain ⟨x, r, e, hx⟩ := encode_cons_big c s h
  rw [e]; simp; omega

/-- the first byte is the code of the ASCII character `d` exactly when `d` is the first character -/
theorem head_eq_iff (t : Str) (d : Char) (hd : d.toNat < 128) :
    (encode t)[0]? = some d.toNat ↔ ∃ r, t = d :: r := by
  cases t with
  | nil => simp
  | cons c r =>
    by_cases hc : c.toNat < 128
    · rw [head_ascii c r hc]
      constructor
      · intro h; exact ⟨r, by rw [char_of_toNat c d h]⟩
      · rintro ⟨r', h⟩; rw [(List.cons.inj h).1]
    · constructor
      · intro h; exact absurd h (head_big c r hc _ hd)
      · rintro ⟨r', h⟩; rw [(List.cons.inj h).1] at hc; exact absurd hd hc

theorem head_dot (t : Str) : (encode t)[0]? = some 46 ↔ ∃ r, t = '.' :: r := head_eq_iff t '.' (by decide)

theorem mantB_encode (s : Str) : mantB (encode s) = mantScan s := by
  unfold mantB mantScan
  rw [dlB_encode, drop_encode_digitsLen]
  by_cases h : ∃ fr, s.drop (digitsLen s) = '.' :: fr
  · obtain ⟨fr, hfr⟩ := h
    rw [if_pos ((head_dot _).mpr ⟨fr, hfr⟩)]
    have hd : (encode s).drop (digitsLen s + 1) = encode fr := by
      rw [← List.drop_drop, drop_encode_digitsLen, hfr, encode_cons_ascii _ _ (by decide)]
      rfl
    rw [hd, dlB_encode, hfr]
    rfl
  · rw [if_neg (fun hh => h ((head_dot _).mp hh))]
    split
    · rename_i fr hfr; exact absurd ⟨fr, hfr⟩ h
    · rfl

/-- the mantissa is made of ASCII characters: byte offsets are character offsets up to its end -/
theorem drop_encode_mant (s : Str) : (encode s).drop (mantScan s).2 = encode (s.drop (mantScan s).2) := by
  unfold mantScan
  split
  · rename_i fr hfr
    split
    · rw [← List.drop_drop, ← List.drop_drop, ← List.drop_drop, ← List.drop_drop, drop_encode_digitsLen, hfr,
        encode_cons_ascii _ _ (by decide)]
      simp only [List.drop_succ_cons, List.drop_zero]
      exact drop_encode_digitsLen fr
    · exact drop_encode_digitsLen s
  · exact drop_encode_digitsLen s

theorem expB_cons (b : Nat) (B : List Nat) : expB (b :: B) =
    if b = 101 ∨ b = 69 then
      if B[0]? = some 43 ∨ B[0]? = some 45 then
        if dlB (B.drop 1) > 0 then 2 + dlB (B.drop 1) else 0
      else
        if dlB B > 0 then 1 + dlB B else 0
    else 0 := by
  simp [expB]

/-- By cases on the first character (exponent letter or not) and on the second (sign or not). Where the character is the one
tested for, it is ASCII and its byte is its code (`encode_cons_ascii`); where it is not, the byte test fails by `head_eq_iff`.
Past these one or two ASCII characters both sides count digits (`dlB_encode`). -/
theorem expB_encode (t : Str) : expB (encode t) = expScan t := by
  cases t with
  | nil => simp [expB, expScan]
  | cons e rest =>
    simp only [expScan]
    by_cases he : e = 'e' ∨ e = 'E'
    · have hb : e.toNat = 101 ∨ e.toNat = 69 := by rcases he with rfl | rfl <;> decide
      have hascii : e.toNat < 128 := by omega
      have hE : (e == 'e' || e == 'E') = true := by rcases he with rfl | rfl <;> decide
      rw [encode_cons_ascii e rest hascii, expB_cons, if_pos hb]
      simp only [hE, if_true]
      cases rest with
      | nil => simp
      | cons sgn r =>
        by_cases hs : sgn = '+' ∨ sgn = '-'
        · have hS : (sgn == '+' || sgn == '-') = true := by rcases hs with rfl | rfl <;> decide
          have hsb : sgn.toNat = 43 ∨ sgn.toNat = 45 := by rcases hs with rfl | rfl <;> decide
          have h0 : (encode (sgn :: r))[0]? = some 43 ∨ (encode (sgn :: r))[0]? = some 45 := by
            rw [encode_cons_ascii sgn r (by omega)]
            rcases hsb with h | h <;> simp [h]
          have hdrop : (encode (sgn :: r)).drop 1 = encode r := by
            rw [encode_cons_ascii sgn r (by omega)]; rfl
          rw [if_pos h0, hdrop, dlB_encode]
          simp only [hS, if_true]
        · have hS : (sgn == '+' || sgn == '-') = false := by
            simp only [Bool.or_eq_false_iff, beq_eq_false_iff_ne]
            exact ⟨fun h => hs (.inl h), fun h => hs (.inr h)⟩
          have h0 : ¬ ((encode (sgn :: r))[0]? = some 43 ∨ (encode (sgn :: r))[0]? = some 45) := by
            rintro (h | h)
            · obtain ⟨r', h'⟩ := (head_eq_iff _ '+' (by decide)).mp h
              exact hs (.inl (List.cons.inj h').1)
            · obtain ⟨r', h'⟩ := (head_eq_iff _ '-' (by decide)).mp h
              exact hs (.inr (List.cons.inj h').1)
          rw [if_neg h0, dlB_encode]
          simp only [hS, Bool.false_eq_true, if_false]
    · have hE : (e == 'e' || e == 'E') = false := by
        simp only [Bool.or_eq_false_iff, beq_eq_false_iff_ne]
        exact ⟨fun h => he (.inl h), fun h => he (.inr h)⟩
      have h0 : ¬ ((encode (e :: rest))[0]? = some 101 ∨ (encode (e :: rest))[0]? = some 69) := by
        rintro (h | h)
        · obtain ⟨r', h'⟩ := (head_eq_iff _ 'e' (by decide)).mp h
          exact he (.inl (List.cons.inj h').1)
        · obtain ⟨r', h'⟩ := (head_eq_iff _ 'E' (by decide)).mp h
          exact he (.inr (List.cons.inj h').1)
      simp only [hE, Bool.false_eq_true, if_false]
      unfold expB
      rw [if_neg h0]

/-- Rust's `bytes.get(i) == Some(&b)` -/
theorem eq_some_nat (a : Option Nat) (b : Nat) : Rs.eq a (some b) = decide (a = some b) := by
  rw [Bool.eq_iff_iff]; cases a <;> simp [rs]

/-- `decimal_literal_len` on bytes -/
def scanB (B : List Nat) : Nat :=
  if (mantB B).1 = 0 then 0 else (mantB B).2 + expB (B.drop (mantB B).2)

/-- the byte-level scan of the encoding is the model's character-level scan -/
theorem scanB_encode (s : Str) : scanB (encode s) = decimalLiteralLen s := by
  rw [decimalLiteralLen_eq, scanB, mantB_encode, drop_encode_mant, expB_encode]

end JL.Lemmas.TieI
