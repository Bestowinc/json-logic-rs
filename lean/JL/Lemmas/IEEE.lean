import JL.Spec.IEEE
import JL.Dec
import JL.Lemmas.Round
import JL.Lemmas.Digits
/-!
# `F64.roundUnits` is IEEE-754 roundTiesToEven (lemmas)

`roundK_struct` reads off the definition the two consecutive grid points `m·2^sh ≤ num/den < (m+1)·2^sh` and the
half-even choice between them; `nearestEven_bracket` shows that this choice is the one point the specification
`IsNearestEven` admits. Everything else (`roundK_of_bracket`, overflow threshold, monotonicity, half-ulp bound,
`ofDecimal`) follows from `nearestEven_iff`.
-/
namespace JL.Lemmas.IEEE
open JL F64 JL.Spec.IEEE

theorem two_pow_pos' (n : Nat) : 0 < 2 ^ n := Nat.two_pow_pos n

/-! ## `ulp`, `sig` and the grid -/

theorem ulp_eq (k : Nat) : ulp k = 2 ^ (bitLen k - 53) := by
  unfold ulp
  split
  · rename_i h; rw [Nat.sub_eq_zero_of_le h]
  · rfl

theorem ulp_pos (k : Nat) : 0 < ulp k := by rw [ulp_eq]; exact Nat.two_pow_pos _

theorem ulp_dvd_ulp {a b : Nat} (h : a ≤ b) : ulp a ∣ ulp b := by
  rw [ulp_eq, ulp_eq]; exact ulp_dvd_of_le h

theorem ulp_mul_dvd {m sh : Nat} (hm : m < 2 ^ 53) : ulp (m * 2 ^ sh) ∣ 2 ^ sh := by
  rw [ulp_eq]; exact ulp_mul_pow_dvd m sh hm

theorem dvd_ulp_of_le {k sh : Nat} (h : sh = 0 ∨ 2 ^ (52 + sh) ≤ k) : 2 ^ sh ∣ ulp k := by
  rw [ulp_eq]
  apply Nat.pow_dvd_pow 2
  rcases h with rfl | h
  · exact Nat.zero_le _
  · have := lt_bitLen_of_le k _ h
    omega

theorem sig_lt (k : Nat) : sig k < 2 ^ 53 := by rw [sig, ulp_eq]; exact mant_lt k

/-- above `2^53` the significand is normalised -/
theorem le_sig {k : Nat} (h : ¬ bitLen k ≤ 53) : 2 ^ 52 ≤ sig k := by
  have hk : k ≠ 0 := by rintro rfl; simp [bitLen] at h
  rw [sig, ulp_eq, Nat.le_div_iff_mul_le (Nat.two_pow_pos _), ← Nat.pow_add,
    show 52 + (bitLen k - 53) = bitLen k - 1 by omega]
  exact (bitLen_bounds k hk).1

theorem gridU_iff_ulp_dvd (k : Nat) : GridU k ↔ ulp k ∣ k := by
  constructor
  · rintro ⟨m, e, hm, rfl⟩
    exact Nat.dvd_trans (ulp_mul_dvd hm) (Nat.dvd_mul_left _ _)
  · intro h
    exact ⟨sig k, bitLen k - 53, sig_lt k, by rw [← ulp_eq, sig, Nat.div_mul_cancel h]⟩

/-! ## canonical form `m·2^sh`: `sh = 0`, or the significand `m` has its top bit set -/

theorem canon_bounds {m sh : Nat} (hc : sh = 0 ∨ 2 ^ 52 ≤ m) : sh = 0 ∨ 2 ^ (52 + sh) ≤ m * 2 ^ sh :=
  hc.imp_right fun h => by rw [Nat.pow_add]; exact Nat.mul_le_mul_right _ h

theorem ulp_canon (m sh : Nat) (hm : m < 2 ^ 53) (hc : sh = 0 ∨ 2 ^ 52 ≤ m) : ulp (m * 2 ^ sh) = 2 ^ sh :=
  Nat.dvd_antisymm (ulp_mul_dvd hm) (dvd_ulp_of_le (canon_bounds hc))

theorem sig_canon (m sh : Nat) (hm : m < 2 ^ 53) (hc : sh = 0 ∨ 2 ^ 52 ≤ m) : sig (m * 2 ^ sh) = m := by
  unfold sig
  rw [ulp_canon m sh hm hc]
  exact Nat.mul_div_cancel _ (Nat.two_pow_pos sh)

theorem top_canon (sh : Nat) : 2 ^ 53 * 2 ^ sh = 2 ^ 52 * 2 ^ (sh + 1) := by
  rw [← Nat.pow_add, ← Nat.pow_add, Nat.add_comm sh 1, ← Nat.add_assoc]

theorem gridU_canon (m sh : Nat) (hm : m ≤ 2 ^ 53) : GridU (m * 2 ^ sh) := by
  rcases Nat.lt_or_eq_of_le hm with h | rfl
  · exact ⟨m, sh, h, rfl⟩
  · exact ⟨2 ^ 52, sh + 1, by decide, top_canon sh⟩

theorem sigEven_canon (m sh : Nat) (hm : m ≤ 2 ^ 53) (hc : sh = 0 ∨ 2 ^ 52 ≤ m) :
    sigEven (m * 2 ^ sh) ↔ m % 2 = 0 := by
  unfold sigEven
  rcases Nat.lt_or_eq_of_le hm with h | rfl
  · rw [sig_canon m sh h hc]
  · rw [top_canon, sig_canon _ _ (by decide) (Or.inr (Nat.le_refl _))]

/-- consecutive grid points: nothing representable lies strictly between `m·2^sh` and `(m+1)·2^sh` -/
theorem no_grid_between (m sh g : Nat) (hc : sh = 0 ∨ 2 ^ 52 ≤ m) (hg : GridU g) :
    g ≤ m * 2 ^ sh ∨ (m + 1) * 2 ^ sh ≤ g := by
  refine (Nat.lt_or_ge (m * 2 ^ sh) g).symm.imp_right fun h => ?_
  obtain ⟨c, rfl⟩ : 2 ^ sh ∣ g :=
    Nat.dvd_trans (dvd_ulp_of_le ((canon_bounds hc).imp_right fun h' => Nat.le_trans h' (Nat.le_of_lt h)))
      ((gridU_iff_ulp_dvd g).mp hg)
  rw [Nat.mul_comm _ c] at h ⊢
  exact Nat.mul_le_mul_right _ (Nat.lt_of_mul_lt_mul_right h)

/-! ## nearest-even between two neighbouring grid points -/

theorem err_of_le {num den g : Nat} (h : g * den ≤ num) : err num den g + g * den = num := by
  unfold err absDiff; omega

theorem err_of_ge {num den g : Nat} (h : num ≤ g * den) : err num den g + num = g * den := by
  unfold err absDiff; omega

/-- moving away from `num/den` on the same side increases the distance -/
theorem err_lt_of_lt_le {num den g g' : Nat} (hd : 0 < den) (hg : g < g') (h : g' * den ≤ num) :
    err num den g' < err num den g := by
  have := Nat.mul_le_mul_right den (Nat.succ_le_of_lt hg)
  rw [Nat.succ_mul] at this
  have := err_of_le h
  have := err_of_le (num := num) (den := den) (g := g) (by omega)
  omega

theorem err_lt_of_ge_lt {num den g g' : Nat} (hd : 0 < den) (h : num ≤ g' * den) (hg : g' < g) :
    err num den g' < err num den g := by
  have := Nat.mul_le_mul_right den (Nat.succ_le_of_lt hg)
  rw [Nat.succ_mul] at this
  have := err_of_ge h
  have := err_of_ge (num := num) (den := den) (g := g) (by omega)
  omega

/-- of two candidates `a`, `b` such that every other grid point is farther than one of them, `a` is the
nearest-even one iff it is strictly nearer than `b`, or equally near and even -/
theorem nearestEven_pick {num den a b : Nat} (ha : GridU a) (hb : GridU b) (hab : a ≠ b)
    (far : ∀ g, GridU g → g ≠ a → g ≠ b → err num den a < err num den g ∨ err num den b < err num den g) :
    IsNearestEven num den a ↔ err num den a < err num den b ∨ (err num den a = err num den b ∧ sigEven a) := by
  constructor
  · intro hk
    have n := hk.nearest b hb
    by_cases h : err num den a < err num den b
    · exact Or.inl h
    · exact Or.inr ⟨by omega, hk.tieEven b hb hab.symm (by omega)⟩
  · intro h
    have hle : err num den a ≤ err num den b := by omega
    refine ⟨ha, fun g hg => ?_, fun g hg hne he => ?_⟩
    · by_cases e1 : g = a
      · rw [e1]; exact Nat.le_refl _
      · by_cases e2 : g = b
        · rw [e2]; exact hle
        · have := far g hg e1 e2; omega
    · by_cases e2 : g = b
      · rw [e2] at he; exact (h.resolve_left (by omega)).2
      · have := far g hg hne e2; omega

/-- `num/den` lies between the consecutive grid points `m·2^sh` and `(m+1)·2^sh`, the lower one in canonical form -/
structure Bracket (m sh num den : Nat) : Prop where
  lt : m < 2 ^ 53
  canon : sh = 0 ∨ 2 ^ 52 ≤ m
  lo_le : m * 2 ^ sh * den ≤ num
  lt_hi : num < (m + 1) * 2 ^ sh * den

/-- the half-even choice between the two ends of a bracket: up beyond the midpoint, and at the midpoint if `m` is odd -/
def halfEven (m sh num den : Nat) : Nat :=
  if m * 2 ^ sh * den + (m + 1) * 2 ^ sh * den < 2 * num ∨
      (2 * num = m * 2 ^ sh * den + (m + 1) * 2 ^ sh * den ∧ m % 2 = 1)
  then (m + 1) * 2 ^ sh else m * 2 ^ sh

theorem Bracket.den_pos {m sh num den : Nat} (hb : Bracket m sh num den) : 0 < den :=
  Nat.pos_of_ne_zero fun h => by have := hb.lt_hi; rw [h] at this; omega

theorem nearestEven_bracket {m sh num den : Nat} (hb : Bracket m sh num den) (k : Nat) :
    IsNearestEven num den k ↔ k = halfEven m sh num den := by
  have hd := hb.den_pos
  obtain ⟨hm, hc, h1, h2⟩ := hb
  have hlo := gridU_canon m sh (Nat.le_of_lt hm)
  have hhi := gridU_canon (m + 1) sh hm
  have plo := sigEven_canon m sh (Nat.le_of_lt hm) hc
  have phi := sigEven_canon (m + 1) sh hm (hc.imp_right Nat.le_succ_of_le)
  have hgap := fun g => no_grid_between m sh g hc
  unfold halfEven
  generalize m * 2 ^ sh = lo at *
  generalize (m + 1) * 2 ^ sh = hi at *
  have hne : lo ≠ hi := by rintro rfl; omega
  have far : ∀ g, GridU g → g ≠ lo → g ≠ hi → err num den lo < err num den g ∨ err num den hi < err num den g :=
    fun g hg n1 n2 => (hgap g hg).imp (fun h => err_lt_of_lt_le hd (Nat.lt_of_le_of_ne h n1) h1)
      (fun h => err_lt_of_ge_lt hd (Nat.le_of_lt h2) (Nat.lt_of_le_of_ne h (Ne.symm n2)))
  -- a nearest point is one of the two ends …
  have hk2 : IsNearestEven num den k → k = lo ∨ k = hi := fun hk =>
    Decidable.byCases Or.inl fun n1 => Decidable.byCases Or.inr fun n2 =>
      (far k hk.grid n1 n2).elim (fun h => absurd (hk.nearest lo hlo) (Nat.not_le_of_lt h))
        (fun h => absurd (hk.nearest hi hhi) (Nat.not_le_of_lt h))
  -- … and which of them qualifies is decided by `err lo = num - lo·den`, `err hi = hi·den - num` and the parity of `m`
  have L := nearestEven_pick hlo hhi hne far
  have H := nearestEven_pick hhi hlo hne.symm fun g hg n1 n2 => (far g hg n2 n1).symm
  rw [plo] at L
  rw [phi] at H
  have e1 := err_of_le h1
  have e2 := err_of_ge (Nat.le_of_lt h2)
  split
  · rename_i hup
    replace H := H.mpr (by omega)
    replace L := mt L.mp (by omega)
    exact ⟨fun hk => (hk2 hk).resolve_left fun e => L (e ▸ hk), fun e => e ▸ H⟩
  · rename_i hup
    replace L := L.mpr (by omega)
    replace H := mt H.mp (by omega)
    exact ⟨fun hk => (hk2 hk).resolve_right fun e => H (e ▸ hk), fun e => e ▸ L⟩

/-! ## the normal form of `roundK` -/

/-- the round-up test of the long branch of `roundK`, on `q = m·2·half + rem` and the remainder `r` of `num/den`,
is the comparison of `num = (lo + rem)·den + r` with the midpoint `(lo + half)·den`; `X` stands for `lo·den` -/
theorem up_iff {den r rem half X num m : Nat} (hr : r < den) (hnum : num = X + rem * den + r) :
    (rem > half ∨ rem = half ∧ (¬ r = 0 ∨ m % 2 = 1)) ↔
      (X + (X + 2 * (half * den)) < 2 * num ∨ 2 * num = X + (X + 2 * (half * den)) ∧ m % 2 = 1) := by
  rcases Nat.lt_trichotomy rem half with h | rfl | h
  · have := Nat.mul_le_mul_right den (Nat.succ_le_of_lt h)
    rw [Nat.succ_mul] at this
    exact iff_of_false (by omega) (by omega)
  · omega
  · have := Nat.mul_le_mul_right den (Nat.succ_le_of_lt h)
    rw [Nat.succ_mul] at this
    exact iff_of_true (Or.inl h) (Or.inl (by omega))

theorem bracket_div (num den P : Nat) (hd : 0 < den) (hP : 0 < P) :
    num / den / P * P * den ≤ num ∧ num < (num / den / P + 1) * P * den := by
  rw [Nat.div_div_eq_div_mul, Nat.mul_assoc, Nat.mul_assoc, Nat.mul_comm P den]
  exact ⟨Nat.div_mul_le_self _ _, by rw [Nat.mul_comm]; exact Nat.lt_mul_div_succ _ (Nat.mul_pos hd hP)⟩

theorem roundK_struct (num den : Nat) (hd : 0 < den) :
    ∃ m sh, Bracket m sh num den ∧ roundK num den = halfEven m sh num den := by
  have hdm := Nat.div_add_mod num den
  have hr := Nat.mod_lt num hd
  by_cases hL : bitLen (num / den) ≤ 53
  · have hb := bracket_div num den 1 hd Nat.one_pos
    rw [Nat.div_one] at hb
    refine ⟨num / den, 0, ⟨(bitLen_le_iff _ _).mp hL, Or.inl rfl, hb.1, hb.2⟩, ?_⟩
    simp only [roundK, halfEven, hL, if_true, Nat.pow_zero, Nat.mul_one, Bool.or_eq_true, Bool.and_eq_true,
      decide_eq_true_eq, beq_iff_eq]
    rw [Nat.succ_mul (num / den) den, Nat.mul_comm (num / den) den]
    generalize num / den = q at hdm ⊢
    generalize num % den = r at hdm hr ⊢
    generalize den * q = X at hdm ⊢
    have c : (2 * r > den ∨ 2 * r = den ∧ q % 2 = 1) ↔
        (X + (X + den) < 2 * num ∨ 2 * num = X + (X + den) ∧ q % 2 = 1) := by omega
    simp only [c]
  · obtain ⟨t, ht⟩ : ∃ t, bitLen (num / den) - 53 = t + 1 := ⟨bitLen (num / den) - 54, by omega⟩
    have hm1 := le_sig hL
    have hm2 := sig_lt (num / den)
    have hb := bracket_div num den (2 ^ (t + 1)) hd (Nat.two_pow_pos _)
    rw [sig, ulp_eq, ht] at hm1 hm2
    refine ⟨_, t + 1, ⟨hm2, Or.inr hm1, hb.1, hb.2⟩, ?_⟩
    simp only [roundK, halfEven, hL, if_false, ht, Nat.shiftLeft_eq, Nat.shiftRight_eq_div_pow, Nat.add_sub_cancel,
      Bool.or_eq_true, Bool.and_eq_true, decide_eq_true_eq, beq_iff_eq, bne_iff_ne, ne_eq]
    have hqdm := Nat.div_add_mod (num / den) (2 ^ (t + 1))
    generalize num / den = q at hdm hqdm ⊢
    generalize num % den = r at hdm hr ⊢
    generalize q / 2 ^ (t + 1) = m at hqdm ⊢
    generalize q % 2 ^ (t + 1) = rem at hqdm ⊢
    rw [Nat.pow_succ] at hqdm ⊢
    generalize 2 ^ t = half at hqdm ⊢
    have eN : num = m * (half * 2) * den + rem * den + r := by
      rw [← hdm, ← hqdm, Nat.mul_comm den, Nat.add_mul, Nat.mul_comm (half * 2)]
    have eH : (m + 1) * (half * 2) * den = m * (half * 2) * den + 2 * (half * den) := by
      rw [Nat.succ_mul m, Nat.add_mul, Nat.mul_comm half 2, Nat.mul_assoc 2]
    rw [eH]
    simp only [up_iff hr eN]
    exact apply_ite (· * (half * 2)) _ _ _

/-! ## `roundK` is the unique nearest-even grid point -/

theorem nearestEven_iff (num den k : Nat) (hd : 0 < den) : IsNearestEven num den k ↔ k = roundK num den := by
  obtain ⟨m, sh, hb, hk⟩ := roundK_struct num den hd
  rw [hk]
  exact nearestEven_bracket hb k

theorem roundK_nearest (num den : Nat) (hd : 0 < den) : IsNearestEven num den (roundK num den) :=
  (nearestEven_iff num den _ hd).mpr rfl

/-- not only in the bracket that `roundK` computes: in every bracket around `num/den`, `roundK` is the half-even choice -/
theorem roundK_of_bracket {m sh num den : Nat} (hb : Bracket m sh num den) : roundK num den = halfEven m sh num den :=
  (nearestEven_bracket hb _).mp (roundK_nearest num den hb.den_pos)

/-! ## `roundUnits` is `roundK` cut at `OVF` -/

theorem roundUnits_eq_fin_iff (neg : Bool) (num den k : Nat) :
    roundUnits neg num den = fin neg k ↔ k = roundK num den ∧ k < OVF := by
  rw [roundUnits_eq]
  split
  · rename_i h
    exact ⟨nofun, fun ⟨e, hlt⟩ => absurd (e ▸ hlt) (Nat.not_lt.mpr h)⟩
  · rename_i h
    exact ⟨fun e => by cases e; exact ⟨rfl, Nat.not_le.mp h⟩, fun ⟨e, _⟩ => e ▸ rfl⟩

theorem roundUnits_eq_inf_iff (neg : Bool) (num den : Nat) :
    roundUnits neg num den = inf neg ↔ OVF ≤ roundK num den := by
  rw [roundUnits_eq]
  split
  · rename_i h; exact ⟨fun _ => h, fun _ => rfl⟩
  · rename_i h; exact ⟨nofun, fun h' => absurd h' h⟩

/-! ## rounding does not cross a grid point -/

theorem roundK_le_of_le (num den g : Nat) (hd : 0 < den) (hg : GridU g) (h : num ≤ g * den) : roundK num den ≤ g :=
  Nat.le_of_not_lt fun hlt =>
    Nat.not_le_of_lt (err_lt_of_ge_lt hd h hlt) ((roundK_nearest num den hd).nearest g hg)

theorem le_roundK_of_le (num den g : Nat) (hd : 0 < den) (hg : GridU g) (h : g * den ≤ num) : g ≤ roundK num den :=
  Nat.le_of_not_lt fun hlt =>
    Nat.not_le_of_lt (err_lt_of_lt_le hd hlt h) ((roundK_nearest num den hd).nearest g hg)

/-- the rounding reaches the upper neighbour `(m+1)·2^sh` exactly when the half-even test says "up" — wherever
`num/den` lies, inside the bracket or not -/
theorem le_roundK_iff (m sh num den : Nat) (hm : m < 2 ^ 53) (hc : sh = 0 ∨ 2 ^ 52 ≤ m) (hd : 0 < den) :
    (m + 1) * 2 ^ sh ≤ roundK num den ↔
      (m * 2 ^ sh * den + (m + 1) * 2 ^ sh * den < 2 * num ∨
        (2 * num = m * 2 ^ sh * den + (m + 1) * 2 ^ sh * den ∧ m % 2 = 1)) := by
  have hlt : m * 2 ^ sh < (m + 1) * 2 ^ sh := Nat.mul_lt_mul_of_pos_right (Nat.lt_succ_self m) (Nat.two_pow_pos sh)
  have hltd := Nat.mul_lt_mul_of_pos_right hlt hd
  by_cases h1 : m * 2 ^ sh * den ≤ num
  · by_cases h2 : num < (m + 1) * 2 ^ sh * den
    · rw [roundK_of_bracket ⟨hm, hc, h1, h2⟩, halfEven]
      split
      · rename_i hup; exact iff_of_true (Nat.le_refl _) hup
      · rename_i hup; exact iff_of_false (Nat.not_le_of_lt hlt) hup
    · exact iff_of_true (le_roundK_of_le num den _ hd (gridU_canon (m + 1) sh hm) (Nat.le_of_not_lt h2)) (by omega)
  · exact iff_of_false
      (fun h => Nat.not_le_of_lt hlt (Nat.le_trans h
        (roundK_le_of_le num den _ hd (gridU_canon m sh (Nat.le_of_lt hm)) (Nat.le_of_not_le h1))))
      (by omega)

/-! ## the rounding depends only on the rational `num/den`, and is monotone in it -/

theorem err_scale (num den num' den' g : Nat) (h : num * den' = num' * den) :
    err num den g * den' = err num' den' g * den := by
  unfold err absDiff
  rw [Nat.add_mul, Nat.add_mul, Nat.sub_mul, Nat.sub_mul, Nat.sub_mul, Nat.sub_mul, h, Nat.mul_right_comm g den den']

theorem isNearestEven_congr (num den num' den' k : Nat) (hd : 0 < den) (hd' : 0 < den')
    (h : num * den' = num' * den) (hk : IsNearestEven num den k) : IsNearestEven num' den' k := by
  refine ⟨hk.grid, ?_, ?_⟩
  · intro g hg
    have := Nat.mul_le_mul_right den' (hk.nearest g hg)
    rw [err_scale num den num' den' k h, err_scale num den num' den' g h] at this
    exact Nat.le_of_mul_le_mul_right this hd
  · intro g hg hne he
    apply hk.tieEven g hg hne
    have : err num den g * den' = err num den k * den' := by
      rw [err_scale num den num' den' k h, err_scale num den num' den' g h, he]
    exact Nat.eq_of_mul_eq_mul_right hd' this

theorem roundK_congr (num den num' den' : Nat) (hd : 0 < den) (hd' : 0 < den')
    (h : num * den' = num' * den) : roundK num den = roundK num' den' :=
  (nearestEven_iff num' den' _ hd').mp (isNearestEven_congr num den num' den' _ hd hd' h (roundK_nearest num den hd))

theorem roundK_mono_num (a a' den : Nat) (hd : 0 < den) (h : a ≤ a') : roundK a den ≤ roundK a' den := by
  obtain ⟨m, sh, ⟨hm, hc, h1, h2⟩, hk⟩ := roundK_struct a den hd
  rw [hk, halfEven]
  split
  · rename_i hup
    exact (le_roundK_iff m sh a' den hm hc hd).mpr (by omega)
  · exact le_roundK_of_le a' den _ hd (gridU_canon m sh (Nat.le_of_lt hm)) (Nat.le_trans h1 h)

theorem roundK_mono (num den num' den' : Nat) (hd : 0 < den) (hd' : 0 < den')
    (h : num * den' ≤ num' * den) : roundK num den ≤ roundK num' den' := by
  rw [roundK_congr num den (num * den') (den * den') hd (Nat.mul_pos hd hd') (by rw [Nat.mul_right_comm, Nat.mul_assoc]),
    roundK_congr num' den' (num' * den) (den * den') hd' (Nat.mul_pos hd hd') (Nat.mul_assoc _ _ _).symm]
  exact roundK_mono_num _ _ _ (Nat.mul_pos hd hd') h

/-! ## half-ulp error bound -/

theorem roundK_half_ulp (num den : Nat) (hd : 0 < den) :
    2 * err num den (roundK num den) ≤ ulp (roundK num den) * den := by
  obtain ⟨m, sh, ⟨hm, hc, h1, h2⟩, hk⟩ := roundK_struct num den hd
  have hlo : m * 2 ^ sh ≤ roundK num den := le_roundK_of_le num den _ hd (gridU_canon m sh (Nat.le_of_lt hm)) h1
  have hu := Nat.mul_le_mul_right den (Nat.le_of_dvd (ulp_pos _) (ulp_dvd_ulp hlo))
  rw [ulp_canon m sh hm hc] at hu
  refine Nat.le_trans ?_ hu
  have eH : (m + 1) * 2 ^ sh * den = m * 2 ^ sh * den + 2 ^ sh * den := by rw [Nat.succ_mul, Nat.add_mul]
  rw [hk, halfEven]
  split
  · have := err_of_ge (Nat.le_of_lt h2)
    omega
  · have := err_of_le h1
    omega

/-! ## overflow and underflow -/

-- in force to the end of the file, for the exponents above 256 below (`2 ^ 2044`, `2 ^ 2045`, `10 ^ 401`)
set_option exponentiation.threshold 4096

/-- the rounded magnitude reaches `2^1024` iff the exact value is at least `2^1024 - 2^970`, half an ulp above the
largest finite double `(2^53 - 1)·2^971` (whose significand is odd, so the tie goes up) -/
theorem OVF_le_roundK_iff (num den : Nat) (hd : 0 < den) :
    OVF ≤ roundK num den ↔ (OVF - 2 ^ 2044) * den ≤ num := by
  have h := le_roundK_iff (2 ^ 53 - 1) 2045 num den (by decide) (Or.inr (by decide)) hd
  have e1 : (2 ^ 53 - 1 + 1) * 2 ^ 2045 = OVF := by decide +kernel
  have e2 : (2 ^ 53 - 1) * 2 ^ 2045 + OVF = 2 * (OVF - 2 ^ 2044) := by decide +kernel
  rw [e1, ← Nat.add_mul, e2, Nat.mul_assoc] at h
  rw [h]
  generalize (OVF - 2 ^ 2044) * den = T
  omega

theorem roundUnits_eq_inf_iff_threshold (neg : Bool) (num den : Nat) (hd : 0 < den) :
    roundUnits neg num den = F64.inf neg ↔ (OVF - 2 ^ 2044) * den ≤ num := by
  rw [roundUnits_eq_inf_iff, OVF_le_roundK_iff num den hd]

/-- anything below half a unit rounds to zero -/
theorem roundUnits_tiny (neg : Bool) (num den : Nat) (h : 2 * num < den) : roundUnits neg num den = fin neg 0 := by
  have hk := roundK_of_bracket (m := 0) (sh := 0) (num := num) (den := den) ⟨by decide, Or.inl rfl, by omega, by omega⟩
  rw [halfEven, if_neg (by omega)] at hk
  rw [roundUnits_eq, hk, if_neg (by decide)]

/-! ## decimal → double -/

theorem ofDecimal_eq_roundUnits (neg : Bool) (d : Nat) (e10 : Int) :
    ofDecimal neg d e10 = roundUnits neg (d * 10 ^ e10.toNat * S) (10 ^ (-e10).toNat) := by
  unfold ofDecimal
  split
  · rename_i h
    rw [beq_iff_eq.mp h, Nat.zero_mul, Nat.zero_mul]
    exact (roundUnits_tiny neg 0 _ (Nat.pow_pos (by decide))).symm
  · rename_i hd0
    have hd1 : 1 ≤ d := Nat.pos_of_ne_zero (by simpa using hd0)
    simp only []
    split
    · -- `e10 > 400`: the value is at least `10^401 > 2^1024`
      rw [show (-e10).toNat = 0 by omega, eq_comm, roundUnits_eq_inf_iff_threshold neg _ _ (by decide)]
      calc (OVF - 2 ^ 2044) * 10 ^ 0 ≤ 1 * 2 ^ 1024 * S := by decide +kernel
        _ ≤ d * 10 ^ e10.toNat * S :=
          Nat.mul_le_mul_right S (Nat.mul_le_mul hd1
            (Nat.le_trans (by decide : 2 ^ 1024 ≤ 10 ^ 401) (Nat.pow_le_pow_right (by decide) (by omega))))
    · split
      · -- `e10 + #digits < -400`: the value is below `10^-401`, less than half a unit
        rename_i hsmall
        rw [show e10.toNat = 0 by omega, Nat.pow_zero, Nat.mul_one, eq_comm]
        apply roundUnits_tiny
        calc 2 * (d * S) = d * (2 * S) := Nat.mul_left_comm _ _ _
          _ < 10 ^ (natToStr d).length * 10 ^ 401 :=
            Nat.mul_lt_mul_of_lt_of_le (lt_pow_length d) (by decide +kernel : 2 * S ≤ 10 ^ 401) (by decide +kernel)
          _ = 10 ^ ((natToStr d).length + 401) := (Nat.pow_add _ _ _).symm
          _ ≤ 10 ^ (-e10).toNat := Nat.pow_le_pow_right (by decide) (by omega)
      · split
        · rw [show (-e10).toNat = 0 by omega]
        · rw [show e10.toNat = 0 by omega, Nat.pow_zero, Nat.mul_one]

theorem ofDecimal_exp_zero (neg : Bool) (d : Nat) : ofDecimal neg d 0 = roundUnits neg (d * S) 1 := by
  rw [ofDecimal_eq_roundUnits]
  simp

end JL.Lemmas.IEEE
