import JL.Spec.Ref
import JL.Lemmas.C13
import JL.Lemmas.C05
import JL.Lemmas.C14
/-!
# Agreement of the two-phase model (`apply` = `check` then `run`) with the single-pass reference semantics
`Spec.Ref.eval`, on success: `Spec.Ref.eval r d = R.ofM (apply r d)` for every rule and data.

`R.ofM` keeps the successful outcomes of the model's monad (value and trace) and forgets which kind of failure
the others are; it is a monad morphism, which is what the proof runs on. The model's branches are taken in the
form of their recursive characterisations (`Lemmas/C05`, `C13`, `C14`); `eval` gets the same kind of equations
here, one per kind of operator; the two are compared operator by operator in one induction over the rule.
-/
namespace JL.Lemmas.C04Ref
open JL Json JL.Spec.Ref JL.Spec.Ref.R

/-! ## the result monad `R` and the morphism `ofM` -/

theorem bind_def {α β} (x : R α) (f : α → R β) : (x >>= f) = andThen x f := rfl
@[simp] theorem pure_eq_ret {α} (a : α) : (pure a : R α) = ret a := rfl

@[simp] theorem ret_bind {α β} (a : α) (f : α → R β) : (ret a >>= f) = f a := by
  show andThen (some (a, [])) f = f a
  unfold andThen
  cases h : f a with
  | none => simp only [h]; rfl
  | some p => cases p; simp only [h, List.nil_append]; rfl

@[simp] theorem fail_bind {α β} (f : α → R β) : ((fail : R α) >>= f) = fail := rfl

@[simp] theorem bind_fail {α β} (x : R α) : (x >>= fun _ => (fail : R β)) = fail := by
  rcases x with _ | ⟨a, l⟩ <;> rfl

@[simp] theorem bind_ret {α} (x : R α) : (x >>= fun a => ret a) = x := by
  rcases x with _ | ⟨a, l⟩
  · rfl
  · exact congrArg (fun l => some (a, l)) (List.append_nil l)

theorem bind_assoc {α β γ} (x : R α) (f : α → R β) (g : β → R γ) :
    (x >>= f >>= g) = (x >>= fun a => f a >>= g) := by
  show andThen (andThen x f) g = andThen x (fun a => andThen (f a) g)
  cases x with
  | none => rfl
  | some p =>
    obtain ⟨a, l⟩ := p
    simp only [andThen]
    cases hf : f a with
    | none => rfl
    | some q =>
      obtain ⟨b, l'⟩ := q
      dsimp only
      cases hg : g b with
      | none => rfl
      | some s => obtain ⟨c, l''⟩ := s; simp only [List.append_assoc]; rfl

@[simp] theorem ofM_ok {α} (l : List Json) (a : α) : ofM (⟨l, .ok a⟩ : M α) = some (a, l) := rfl
@[simp] theorem ofM_err' {α} (l : List Json) : ofM (⟨l, .err⟩ : M α) = fail := rfl
@[simp] theorem ofM_panic' {α} (l : List Json) : ofM (⟨l, .panic⟩ : M α) = fail := rfl
@[simp] theorem ofM_pure {α} (a : α) : ofM (pure a : M α) = ret a := rfl
@[simp] theorem ofM_err {α} : ofM (M.err : M α) = fail := rfl
@[simp] theorem ofM_panic {α} : ofM (M.panic : M α) = fail := rfl

/-- `ofM` is a monad morphism -/
theorem ofM_bind {α β} (x : M α) (f : α → M β) : ofM (x >>= f) = (ofM x >>= fun a => ofM (f a)) := by
  cases x with | mk l o =>
  cases o with
  | ok a =>
    show ofM (⟨l ++ (f a).logs, (f a).out⟩ : M β) = andThen (some (a, l)) (fun a => ofM (f a))
    unfold andThen
    dsimp only
    cases h : f a with | mk l' o' =>
    cases o' <;> simp only [ofM] <;> rfl
  | err => rfl
  | panic => rfl

theorem ofM_ite {α} (c : Prop) [Decidable c] (x y : M α) : ofM (if c then x else y) = if c then ofM x else ofM y :=
  apply_ite ofM c x y

/-- to prove `x >>= f = ofM (m >>= g)`: agreement of the heads and, for every value, of the tails -/
theorem bind_eq_ofM_bind {α β} {x : R α} {m : M α} {f : α → R β} {g : α → M β} (hx : x = ofM m)
    (hf : ∀ a, f a = ofM (g a)) : (x >>= f) = ofM (m >>= g) := by
  rw [ofM_bind, hx, funext hf]

theorem ofM_eq_val {α} (m : M α) (v : α) (l : List Json) : ofM m = R.val v l ↔ m = ⟨l, .ok v⟩ := by
  obtain ⟨l', _ | _ | _⟩ := m <;> constructor <;> intro h <;> cases h <;> rfl

/-- a rule that is parsed when it is first used, as the body of a loop: a loop that uses it at least once
(`hL`: it fails if the body does) may as well parse it up front -/
theorem ofM_apply_loop {β} (e : Json) (L : (Json → R Json) → R β) (hL : L (fun _ => fail) = fail) :
    L (fun x => ofM (apply e x)) = if check e then L (fun x => ofM (run e x)) else fail := by
  unfold apply
  cases check e
  · exact hL
  · rfl

/-! ## the data loops -/

theorem mapR_eq (f : Json → M Json) (xs : List Json) : mapR (fun x => ofM (f x)) xs = ofM (mapData f xs) := by
  induction xs with
  | nil => rfl
  | cons x xs ih => exact bind_eq_ofM_bind rfl fun _ => bind_eq_ofM_bind ih fun _ => rfl

theorem filterR_eq (f : Json → M Json) (xs : List Json) : filterR (fun x => ofM (f x)) xs = ofM (filterData f xs) := by
  induction xs with
  | nil => rfl
  | cons x xs ih => exact bind_eq_ofM_bind rfl fun _ => bind_eq_ofM_bind ih fun _ => rfl

theorem foldR_eq (f : Json → M Json) (xs : List Json) (a : Json) :
    foldR (fun acc x => ofM (f (reduceCtx acc x))) xs a = ofM (reduceData f xs a) := by
  induction xs generalizing a with
  | nil => rfl
  | cons x xs ih => exact bind_eq_ofM_bind rfl ih

theorem quantR_eq (isAll : Bool) (p : Json → M Json) (xs : List Json) :
    quantR isAll (fun x => ofM (p x)) xs = ofM (quantData isAll p xs isAll) := by
  induction xs with
  | nil => rfl
  | cons x xs ih =>
    rw [Lemmas.C14.quantData_step, quantR]
    refine bind_eq_ofM_bind rfl fun r => ?_
    rw [ofM_ite, ← ih]
    simp only [beq_iff_eq]; rfl

theorem mapR_fail_cons (x : Json) (xs : List Json) : mapR (fun _ => (fail : R Json)) (x :: xs) = fail := rfl
theorem filterR_fail_cons (x : Json) (xs : List Json) : filterR (fun _ => (fail : R Json)) (x :: xs) = fail := rfl
theorem foldR_fail_cons (x : Json) (xs : List Json) (a : Json) :
    foldR (fun _ _ => (fail : R Json)) (x :: xs) a = fail := rfl
theorem quantR_fail_cons (isAll : Bool) (x : Json) (xs : List Json) :
    quantR isAll (fun _ => (fail : R Json)) (x :: xs) = fail := rfl

/-! ## the list-level functions of the reference semantics, given agreement on the elements -/

/-- agreement on one rule, for every data -/
def Agree (x : Json) : Prop := ∀ d, eval x d = ofM (apply x d)

/-- the reference parses operand `i` when it reaches it, the model parses all operands first; both fail when any parse
fails, and the traces of failing runs are not compared: so `checkList` may stand in front -/
theorem evalList_eq : ∀ (xs : List Json), (∀ x ∈ xs, Agree x) → ∀ d,
    evalList xs d = if checkList xs then ofM (runList xs d) else fail
  | [], _, d => by rw [evalList, checkList, runList_nil]; rfl
  | x :: xs, ih, d => by
      rw [evalList, ih x (.head _) d, evalList_eq xs (fun y hy => ih y (.tail _ hy)) d, checkList, runList_cons, apply]
      cases check x
      · rfl
      · cases checkList xs
        · exact bind_fail _
        · simp only [ofM_bind]; rfl

open Props.C05 in
theorem evalIf_eq : ∀ (xs : List Json), (∀ x ∈ xs, Agree x) → ∀ d, evalIf xs d = ofM (ifSpec d xs)
  | [], _, d => by rw [evalIf, ifSpec]; rfl
  | [e], ih, d => by rw [evalIf, ifSpec]; exact ih e (.head _) d
  | c :: t :: rest, ih, d => by
      rw [evalIf, ifSpec]
      refine bind_eq_ofM_bind (ih c (.head _) d) fun cv => ?_
      rw [ofM_ite, ← evalIf_eq rest (fun y hy => ih y (.tail _ (.tail _ hy))) d]
      exact congrArg (ite _ · _) (ih t (.tail _ (.head _)) d)

theorem evalOrAnd_singleton (isOr : Bool) (x d : Json) : evalOrAnd isOr [x] d = eval x d := by
  rw [evalOrAnd]; simp only [List.isEmpty_nil, Bool.or_true, if_true, bind_ret]

open Props.C05 Lemmas.C05 in
theorem evalOrAnd_eq (isOr : Bool) : ∀ (xs : List Json), (∀ x ∈ xs, Agree x) → ∀ d,
    evalOrAnd isOr xs d = ofM (oaSpec isOr d xs)
  | [], _, d => by rw [evalOrAnd, oaSpec]; rfl
  | [e], ih, d => by rw [evalOrAnd_singleton, oaSpec]; exact ih e (.head _) d
  | e :: y :: rest, ih, d => by
      rw [evalOrAnd, oaSpec]
      refine bind_eq_ofM_bind (ih e (.head _) d) fun v => ?_
      rw [ofM_ite, ← evalOrAnd_eq isOr (y :: rest) (fun z hz => ih z (.tail _ hz)) d]
      simp only [List.isEmpty_cons, Bool.or_false]; rfl

theorem evalQuantLit_eq (isAll : Bool) (P : Json → M Json) : ∀ (xs : List Json), (∀ x ∈ xs, Agree x) → ∀ d,
    evalQuantLit isAll xs (fun x => ofM (P x)) d = ofM (runQuantLit isAll xs P d isAll)
  | [], _, d => by rw [evalQuantLit, runQuantLit]; rfl
  | i :: is, ih, d => by
      rw [evalQuantLit, Lemmas.C14.runQuantLit_step]
      refine bind_eq_ofM_bind (ih i (.head _) d) fun iv => bind_eq_ofM_bind rfl fun r => ?_
      rw [ofM_ite, ← evalQuantLit_eq isAll P is (fun z hz => ih z (.tail _ hz)) d]
      simp only [beq_iff_eq]; rfl

/-! ## loops whose body is a rule parsed when first used -/

open Lemmas.C13 in
/-- the part of `map`/`filter`/`reduce` after the collection operand, for a loop `L` (reference: `LR`) over the items -/
theorem coll_part {β} {cv e : Json} (L : (Json → M Json) → List Json → M β) (LR : (Json → R Json) → List Json → R β)
    {nilR : R β} (ihe : Agree e) (hL : ∀ f items, LR (fun x => ofM (f x)) items = ofM (L f items))
    (hnil : ∀ f, LR f [] = nilR) (hfail : ∀ x xs, LR (fun _ => fail) (x :: xs) = fail) :
    (coll cv >>= fun items =>
        if items.isEmpty then (if check e then nilR else fail) else LR (fun x => eval e x) items) =
      ofM (M.ofOption (collOf cv) >>= fun items => parsed e >>= fun _ => L (fun x => run e x) items) := by
  rw [funext ihe]
  refine bind_eq_ofM_bind (by cases cv <;> rfl) fun items => ?_
  unfold parsed
  cases items with
  | nil =>
    cases check e
    · rfl
    · exact (hnil _).symm.trans (hL (fun x => run e x) [])
  | cons x xs =>
    rw [ofM_apply_loop e (fun f => LR f (x :: xs)) (hfail x xs)]
    cases check e
    · rfl
    · exact hL _ _

/-- `all`/`some` over a collection that is a value -/
def quantValR (isAll : Bool) (cv : Json) (pR : Json → R Json) : R Bool :=
  match quantItems cv with
  | none => fail
  | some items => if items.isEmpty then ret false else quantR isAll pR items

theorem quantValR_eq (isAll : Bool) (cv p : Json) :
    (quantValR isAll cv (fun x => ofM (apply p x)) >>= fun b => ret (.bool b)) =
      ofM (quantValue isAll cv (check p) (fun x => run p x)) := by
  unfold quantValue quantValR
  cases quantItems cv with
  | none => rfl
  | some items =>
    cases items with
    | nil => rfl
    | cons x xs =>
      dsimp only
      rw [ofM_apply_loop p (fun f => quantR isAll f (x :: xs)) (quantR_fail_cons isAll x xs)]
      cases check p
      · rfl
      · exact bind_eq_ofM_bind (quantR_eq isAll _ _) fun _ => rfl

/-- what the reference semantics of `all`/`some`/`none` computes before the final (possibly negating) step -/
def quantBodyR (isAll : Bool) (c p d : Json) : R Bool :=
  match c with
  | .arr elems =>
      if elems.isEmpty then ret false
      else evalQuantLit isAll elems (fun x => eval p x) d
  | other => do
      let cv ← (if isObj other then eval other d else ret other)
      quantValR isAll cv (fun x => eval p x)

open Lemmas.C14 in
theorem quantBodyR_eq (isAll : Bool) (c p d : Json) (ihc : Agree c) (ihp : Agree p)
    (ihe : ∀ elems, c = .arr elems → ∀ x ∈ elems, Agree x) :
    (quantBodyR isAll c p d >>= fun b => ret (.bool b)) = ofM (quantBody isAll c p d) := by
  unfold quantBody quantBodyR
  rw [funext ihp]
  cases c with
  | arr elems =>
    cases elems with
    | nil => rfl
    | cons x xs =>
      dsimp only
      rw [ofM_apply_loop p (fun f => evalQuantLit isAll (x :: xs) f d) (by rw [evalQuantLit]; exact bind_fail _)]
      cases check p
      · rfl
      · exact bind_eq_ofM_bind (evalQuantLit_eq isAll _ _ (ihe _ rfl) d) fun _ => rfl
  | obj kvs =>
    simp only [isObj, if_true, ihc d, bind_assoc, quantValR_eq]
    cases hc : check (.obj kvs)
    · rw [apply_of_not_check hc]; rfl
    · rw [apply_of_check hc, ← ofM_bind]; rfl
  | _ => simp only [isObj, Bool.false_eq_true, if_false, ret_bind, quantValR_eq]

/-! ## equations of `eval`

`eval` looks at the arity when it visits an operation: an operand that is not admitted is a failure whatever the
operator is (`eval_of_not_admits`, the twin of `check_op`); for an admitted operand each equation says what `eval`
does for one kind of operator. The key is a variable (see the note at `Lemmas.C13.run_map`): an eager or data
operator is given by its row `hl` of the table, a lazy one by `hk : k = "…".toList`. -/

theorem eval_literal {r : Json} (h : ∀ k v, r ≠ .obj [(k, v)]) (d : Json) : eval r d = ret r := by
  unfold eval
  split
  · exact absurd rfl (h _ _)
  · rfl

theorem eval_unknown {k : Str} (h : lookupOp k = none) (v d : Json) : eval (.obj [(k, v)]) d = ret (.obj [(k, v)]) := by
  unfold eval; rw [h]

theorem eval_of_not_admits {k : Str} {kind : Kind} {ar : Arity} {v : Json} (hl : lookupOp k = some (kind, ar))
    (h : ar.admits v = false) (d : Json) : eval (.obj [(k, v)]) d = fail := by
  unfold eval
  rw [hl]
  cases v <;> simp only [Arity.admits] at h <;> cases kind <;>
    simp only [h, Bool.not_false, Bool.false_and, Bool.false_eq_true, ↓reduceIte]

theorem evalList_singleton (x d : Json) : evalList [x] d = eval x d >>= fun r => ret [r] := by
  rw [evalList, evalList]; simp only [ret_bind]

section
variable {k : Str} {ar : Arity} {v : Json}

theorem eval_eager (hl : lookupOp k = some (.eager, ar)) (hadm : ar.admits v = true) (d : Json) :
    eval (.obj [(k, v)]) d = evalList (operands v) d >>= opEager k := by
  conv => lhs; unfold eval
  rw [hl]
  cases v <;> simp only [operands, evalList_singleton, bind_assoc, ret_bind] <;> exact if_pos hadm

theorem eval_data (hl : lookupOp k = some (.data, ar)) (hadm : ar.admits v = true) (d : Json) :
    eval (.obj [(k, v)]) d = evalList (operands v) d >>= opData k d := by
  conv => lhs; unfold eval
  rw [hl]
  cases v <;> simp only [operands, evalList_singleton, bind_assoc, ret_bind] <;> exact if_pos hadm

end

open Lemmas.C05 in
theorem eval_if {k : Str} (hk : k = "if".toList ∨ k = "?:".toList) (v d : Json) :
    eval (.obj [(k, v)]) d = evalIf (operands v) d := by
  conv => lhs; unfold eval
  rw [lookup_if_tern hk]
  simp only [show (decide (k = "if".toList) || decide (k = "?:".toList)) = true by
    simpa only [Bool.or_eq_true, decide_eq_true_eq] using hk, ↓reduceIte, Bool.true_or, Bool.and_true]
  cases v <;> simp only [operands, evalIf] <;> rfl

/-- the arity of `or`/`and` asks for nothing that `evalOrAnd` does not ask for itself -/
theorem evalOrAnd_guard (isOr : Bool) (xs : List Json) (d : Json) :
    (if !(Arity.atLeast 1).isValidLen xs.length then fail else evalOrAnd isOr xs d) = evalOrAnd isOr xs d := by
  cases xs with
  | nil => rw [evalOrAnd]; rfl
  | cons x xs => exact if_neg (by simp [Arity.isValidLen])

theorem eval_oa {k : Str} {isOr : Bool} (hk : k = "or".toList ∧ isOr = true ∨ k = "and".toList ∧ isOr = false)
    (v d : Json) : eval (.obj [(k, v)]) d = evalOrAnd isOr (operands v) d := by
  conv => lhs; unfold eval
  rcases hk with ⟨hk, rfl⟩ | ⟨hk, rfl⟩
  · lazy_key hk with lookup_or
    cases v with
    | arr xs => exact evalOrAnd_guard true xs d
    | _ => exact (evalOrAnd_singleton true _ d).symm
  · lazy_key hk with lookup_and
    cases v with
    | arr xs => exact evalOrAnd_guard false xs d
    | _ => exact (evalOrAnd_singleton false _ d).symm

theorem eval_map {k : Str} (hk : k = "map".toList) (c e d : Json) :
    eval (.obj [(k, .arr [c, e])]) d = (do
      let cv ← eval c d
      let items ← coll cv
      if items.isEmpty then (if check e then ret (.arr []) else fail)
      else do
        let rs ← mapR (fun x => eval e x) items
        ret (.arr rs)) := by
  conv => lhs; unfold eval
  lazy_key hk with lookup_map
  rfl

theorem eval_filter {k : Str} (hk : k = "filter".toList) (c e d : Json) :
    eval (.obj [(k, .arr [c, e])]) d = (do
      let cv ← eval c d
      let items ← coll cv
      if items.isEmpty then (if check e then ret (.arr []) else fail)
      else do
        let rs ← filterR (fun x => eval e x) items
        ret (.arr rs)) := by
  conv => lhs; unfold eval
  lazy_key hk with lookup_filter
  rfl

theorem eval_reduce {k : Str} (hk : k = "reduce".toList) (c e i d : Json) :
    eval (.obj [(k, .arr [c, e, i])]) d = (do
      let cv ← eval c d
      let iv ← eval i d
      let items ← coll cv
      if items.isEmpty then (if check e then ret iv else fail)
      else foldR (fun acc x => eval e (reduceCtx acc x)) items iv) := by
  conv => lhs; unfold eval
  lazy_key hk with lookup_reduce
  rfl

theorem eval_all {k : Str} (hk : k = "all".toList) (c p d : Json) :
    eval (.obj [(k, .arr [c, p])]) d = quantBodyR true c p d >>= fun b => ret (.bool b) := by
  conv => lhs; unfold eval
  lazy_key hk with lookup_all
  rfl

theorem eval_some {k : Str} (hk : k = "some".toList) (c p d : Json) :
    eval (.obj [(k, .arr [c, p])]) d = quantBodyR false c p d >>= fun b => ret (.bool b) := by
  conv => lhs; unfold eval
  lazy_key hk with lookup_some
  rfl

theorem eval_none {k : Str} (hk : k = "none".toList) (c p d : Json) :
    eval (.obj [(k, .arr [c, p])]) d = quantBodyR false c p d >>= fun b => ret (.bool !b) := by
  conv => lhs; unfold eval
  lazy_key hk with lookup_none
  rfl

/-! ## the induction over the rule -/

theorem admits_two {v : Json} (h : (Arity.exactly 2).admits v = true) : ∃ c e, v = .arr [c, e] := by
  obtain ⟨xs, rfl, hlen⟩ := Arity.admits_exactly h (by decide)
  obtain ⟨c, e, rfl⟩ := length_eq_two hlen
  exact ⟨c, e, rfl⟩

theorem admits_three {v : Json} (h : (Arity.exactly 3).admits v = true) : ∃ c e i, v = .arr [c, e, i] := by
  obtain ⟨xs, rfl, hlen⟩ := Arity.admits_exactly h (by decide)
  obtain ⟨c, e, i, rfl⟩ := length_eq_three hlen
  exact ⟨c, e, i, rfl⟩

open Lemmas.C05 Lemmas.C13 Lemmas.C14 Props.C14 in
/-- **Agreement**: the single-pass reference semantics yields exactly the successful outcomes of the model -/
theorem eval_eq_ofM_apply (r : Json) : Agree r := by
  induction r using rule_cases with
  | literal r h => intro d; rw [eval_literal h, apply_of_check (check_literal h), run_literal h]; rfl
  | unknown k v hl => intro d; rw [eval_unknown hl, apply_of_check (check_unknown hl v), run_unknown hl]; rfl
  | op k v kind ar hl ihop ihel =>
  intro d
  cases hadm : ar.admits v
  case false => rw [eval_of_not_admits hl hadm, apply_of_not_check (by rw [check_op hl, hadm]; rfl)]; rfl
  cases kind with
  | eager =>
    rw [eval_eager hl hadm, apply, check_op hl, hadm, run_eager hl v d, evalList_eq _ ihop]
    cases checkList (operands v)
    · rfl
    · exact (ofM_bind _ _).symm
  | data =>
    rw [eval_data hl hadm, apply, check_op hl, hadm, run_data hl v d, evalList_eq _ ihop]
    cases checkList (operands v)
    · rfl
    · exact (ofM_bind _ _).symm
  | lazy =>
  rw [apply_of_check (by rw [check_op hl, hadm]; rfl)]
  -- the operators of fixed arity: the row of the table says what `hadm` admits
  have row : ∀ {k' n}, k = k' → lookupOp k' = some (.lazy, .exactly n) → (Arity.exactly n).admits v = true := by
    rintro _ _ rfl h; cases hl.symm.trans h; exact hadm
  have quant : ∀ {c p isAll}, v = .arr [c, p] →
      (quantBodyR isAll c p d >>= fun b => ret (.bool b)) = ofM (quantBody isAll c p d) := by
    rintro c p isAll rfl
    exact quantBodyR_eq isAll c p d (ihop c (.head _)) (ihop p (.tail _ (.head _))) fun elems he =>
      ihel elems (he ▸ .head _)
  rcases lookupOp_lazy_key hl with hk | hk | hk | hk | hk | hk | hk | hk | hk
  · rw [eval_if hk, run_if hk]; exact evalIf_eq _ ihop d
  · rw [eval_oa (.inl ⟨hk, rfl⟩), run_oa (.inl ⟨hk, rfl⟩)]; exact evalOrAnd_eq true _ ihop d
  · rw [eval_oa (.inr ⟨hk, rfl⟩), run_oa (.inr ⟨hk, rfl⟩)]; exact evalOrAnd_eq false _ ihop d
  · obtain ⟨c, e, rfl⟩ := admits_two (row hk lookup_map)
    rw [eval_map hk, run_map hk, operands_arr]
    exact bind_eq_ofM_bind (ihop c (.head _) d) fun cv =>
      coll_part (fun f its => mapData f its >>= fun rs => pure (Json.arr rs))
        (fun f its => mapR f its >>= fun rs => ret (Json.arr rs)) (ihop e (.tail _ (.head _)))
        (fun f its => bind_eq_ofM_bind (mapR_eq f its) fun _ => rfl) (fun _ => rfl) fun _ _ => rfl
  · obtain ⟨c, e, rfl⟩ := admits_two (row hk lookup_filter)
    rw [eval_filter hk, run_filter hk, operands_arr]
    exact bind_eq_ofM_bind (ihop c (.head _) d) fun cv =>
      coll_part (fun f its => filterData f its >>= fun rs => pure (Json.arr rs))
        (fun f its => filterR f its >>= fun rs => ret (Json.arr rs)) (ihop e (.tail _ (.head _)))
        (fun f its => bind_eq_ofM_bind (filterR_eq f its) fun _ => rfl) (fun _ => rfl) fun _ _ => rfl
  · obtain ⟨c, e, i, rfl⟩ := admits_three (row hk lookup_reduce)
    rw [eval_reduce hk, run_reduce hk, operands_arr]
    exact bind_eq_ofM_bind (ihop c (.head _) d) fun cv =>
      bind_eq_ofM_bind (ihop i (.tail _ (.tail _ (.head _))) d) fun iv =>
        coll_part (fun f its => reduceData f its iv) (fun f its => foldR (fun acc x => f (reduceCtx acc x)) its iv)
          (ihop e (.tail _ (.head _))) (fun f its => foldR_eq f its iv) (fun _ => rfl) fun x xs => foldR_fail_cons x xs iv
  · obtain ⟨c, p, rfl⟩ := admits_two (row hk lookup_all)
    rw [eval_all hk, run_all hk, operands_arr]; exact quant rfl
  · obtain ⟨c, p, rfl⟩ := admits_two (row hk lookup_some)
    rw [eval_some hk, run_some hk, operands_arr]; exact quant rfl
  · obtain ⟨c, p, rfl⟩ := admits_two (row hk lookup_none)
    rw [eval_none hk, run_none hk, operands_arr]
    dsimp only
    rw [ofM_bind, ← quant rfl, bind_assoc]
    congr 1

end JL.Lemmas.C04Ref
