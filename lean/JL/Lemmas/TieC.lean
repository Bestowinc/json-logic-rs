import JL.Rs
import JL.Lemmas.TieAttr
/-!
# Helper lemmas for the tie theorems `split_with_escape`, `radix_literal`, `substr` of `JL/Tie`

The translated functions run their loops with `Rs.for_`; the model has hand-written recursive loops. The lemmas here say:
a `for` loop whose body performs one step of the model's loop computes the model's loop. They are stated for an arbitrary
body `f` with the step equation as a hypothesis, so that they do not depend on how the translator spells the body.
-/
namespace JL.Lemmas.TieC
open JL

/-! ## `split_with_escape` -/

/-- the `escape` flag after the loop (the model's `splitLoop` does not return it) -/
def splitEsc : List Char → Bool → Bool
  | [], e => e
  | c :: cs, e => splitEsc cs (!e && c == '\\')

/-- a `for` loop whose body is one step of `splitLoop` computes `splitLoop` -/
theorem for_splitLoop {ρ : Type} (delim : Char) (f : List Str × Str × Bool → Char → Rs.Flow (List Str × Str × Bool) ρ)
    (hf : ∀ r s e c, f (r, s, e) c = .next
      (if e then (r, s ++ [c], false) else if c = '\\' then (r, s, true)
       else if c = delim then (r ++ [s], [], false) else (r, s ++ [c], false))) :
    ∀ (cs : List Char) (r : List Str) (s : Str) (e : Bool),
    Rs.for_ cs (r, s, e) f
      = .done ((Data.splitLoop delim cs r s e).1, (Data.splitLoop delim cs r s e).2, splitEsc cs e)
  | [], r, s, e => by simp [Rs.for_, Data.splitLoop, splitEsc]
  | c :: cs, r, s, e => by
      have ih := for_splitLoop delim f hf cs
      have h := hf r s e c
      simp only [Rs.for_, h, Data.splitLoop, splitEsc]
      by_cases he : e = true
      · simp [he, ih]
      · by_cases h1 : c = '\\'
        · simp [he, h1, ih]
        · have h1' : (c == '\\') = false := by simp [h1]
          by_cases h2 : c = delim
          · subst h2; simp [he, h1, h1', ih]
          · simp [he, h1, h1', h2, ih]

/-- the `char` literal `'\\'` in the translator's spelling (`TieAuto`, rule 7) -/
theorem backslash : Char.ofNat 0x5C = '\\' := rfl

/-! ## `radix_literal` -/

/-- a `for` loop whose body is one step of `radixLoop` (early `return` of `r` on a bad digit) computes `radixLoop` -/
theorem for_radixLoop {ρ : Type} (radix bits : Nat) (r : ρ) (f : Nat × Nat × Bool → Char → Rs.Flow (Nat × Nat × Bool) ρ)
    (hf : ∀ acc shift sticky c, f (acc, shift, sticky) c =
      match JsOp.toDigit radix c with
      | none => .ret r
      | some d =>
          if acc / 2 ^ 60 = 0 then .next (acc * 2 ^ bits + d, shift, sticky)
          else .next (acc, shift + bits, sticky || d != 0)) :
    ∀ (cs : List Char) (st : Nat × Nat × Bool),
    Rs.for_ cs st f = match JsOp.radixLoop radix bits cs st with
      | none => .ret r
      | some st' => .done st'
  | [], st => by simp [Rs.for_, JsOp.radixLoop]
  | c :: cs, (acc, shift, sticky) => by
      have ih := for_radixLoop radix bits r f hf cs
      simp only [Rs.for_, hf acc shift sticky c, JsOp.radixLoop]
      cases JsOp.toDigit radix c with
      | none => simp
      | some d => by_cases h0 : acc / 2 ^ 60 = 0 <;> simp [h0, ih]

/-- `acc << bits | d` is `acc * 2^bits + d` for a digit `d < 2^bits` -/
theorem shl_or {bits d : Nat} (h : d < 2 ^ bits) (acc : Nat) : acc <<< bits ||| d = acc * 2 ^ bits + d := by
  rw [← Nat.shiftLeft_add_eq_or_of_lt h, Nat.shiftLeft_eq]

theorem shr_eq_zero (acc k : Nat) : (acc >>> k = 0) = (acc / 2 ^ k = 0) := by
  rw [Nat.shiftRight_eq_div_pow]

/-- `acc | (sticky as u64)` -/
theorem or_sticky (acc : Nat) (sticky : Bool) :
    (acc ||| (if sticky = true then 1 else 0)) = if sticky = true then acc ||| 1 else acc := by
  cases sticky <;> simp

/-! `F64.ofNat n` must never be put to weak head normal form with a symbolic `n` (neither the elaborator nor the kernel
survives the unfolding of `roundUnits` on `n * 2^1074`), and unfolding `Rs.to_f64 n` / `Rs.mul (F64.ofNat n) x` through the
type-class projections leads to exactly that in the kernel's lazy unfolding. The following rewrite rules are proved with the
float function / operands abstracted, so that using them costs only syntactic matching. -/
theorem to_f64_mk (g : Nat → F64) (n : Nat) : @Rs.to_f64 Nat ⟨g⟩ n = g n := rfl
/-- `n as f64` -/
theorem to_f64_nat (n : Nat) : Rs.to_f64 n = F64.ofNat n := to_f64_mk F64.ofNat n
/-- `f64 * f64` (deliberately not a `rfl` lemma: `simp` must rewrite with it by a proof term, not by definitional unfolding) -/
theorem mul_f64 (a b : F64) : Rs.mul a b = F64.mul a b := by cases a <;> rfl
/-- `u64 > u64` -/
theorem gt_nat (a b : Nat) : Rs.gt a b = decide (b < a) := rfl
/-- `b as u64` -/
theorem to_u64_bool (b : Bool) : Rs.to_u64 b = if b then 1 else 0 := rfl

set_option exponentiation.threshold 3000 in
/-- the literal `2f64` in the translator's spelling (`TieAuto`, rule 7) -/
theorem two_f64 : F64.fin false (1 * 2 ^ 1075) = F64.fin false (2 * F64.S) := by
  simp only [F64.S, Nat.one_mul, Nat.pow_succ 2 1074, Nat.mul_comm]

set_option exponentiation.threshold 3000 in
theorem powi_two (n : Nat) : Rs.powi (F64.fin false (1 * 2 ^ 1075)) n = JsOp.pow2 n := by
  rw [two_f64]; simp [Rs.powi]

set_option exponentiation.threshold 3000 in
/-- `powi_two` after `simp` has dropped the `1 *` -/
theorem powi_two' (n : Nat) : Rs.powi (F64.fin false (2 ^ 1075)) n = JsOp.pow2 n := by
  rw [← powi_two]

set_option exponentiation.threshold 3000 in
theorem two_pow_1075 : 2 ^ 1075 = 2 * F64.S := by
  simp only [F64.S, Nat.pow_succ 2 1074, Nat.mul_comm]

/-! These rules are in the simp set `tie` as *pre*-rules (`↓`): they fire on a call before `simp` visits its operands, i.e. before
the unfolding set `rs` can touch it, so that `tie_close` (`JL/Lemmas/TieAuto.lean`) never unfolds a cast or a product of floats. -/
attribute [tie ↓] to_f64_nat mul_f64 gt_nat to_u64_bool powi_two powi_two'

/-! ## `substr`: the `usize` arithmetic

These are stated on the `Rs` calls themselves and are to be used (`simp only`) BEFORE `simp [rs]`: unfolding the calls first
leaves `if`s whose `Decidable` instances still mention the folded calls, which blocks later rewriting. -/

/-- `a.checked_sub(b).unwrap_or(0)` is truncated subtraction -/
theorem unwrap_checked_sub (a b : Nat) : Rs.unwrap_or (Rs.checked_sub a b) 0 = a - b := by
  simp only [Rs.unwrap_or, Rs.checked_sub]; split <;> simp <;> omega

/-- `a.checked_add(b).unwrap_or(d)` -/
theorem unwrap_checked_add (a b d : Nat) :
    Rs.unwrap_or (Rs.checked_add a b) d = if a + b < 2 ^ 64 then a + b else d := by
  simp only [Rs.unwrap_or, Rs.checked_add]; split <;> simp

theorem min_nat (a b : Nat) : Rs.min_ a b = min a b := rfl
theorem count_eq {α : Type} (l : List α) : Rs.count l = l.length := rfl
theorem lt_int (a b : Int) : Rs.lt a b = decide (a < b) := rfl
theorem try_into_eq (n : Nat) : Rs.try_into n = some n := rfl
theorem unsigned_abs_eq (i : Int) : Rs.unsigned_abs i = i.natAbs := rfl

theorem saturating_sub_eq (a b : Nat) : Rs.saturating_sub a b = a - b := rfl

theorem saturating_add_eq (a b : Nat) : Rs.saturating_add a b = a + b := rfl

/-- the sign of an index, in both spellings at once (`i < 0` and `0 ≤ i`): the `simp` that closes a case then has the fact
whichever test the code makes -/
theorem sign_cases (i : Int) : (i < 0 ∧ ¬ 0 ≤ i) ∨ (¬ i < 0 ∧ 0 ≤ i) := by omega

theorem ge_int (a b : Int) : Rs.ge a b = decide (b ≤ a) := rfl

theorem gt_int (a b : Int) : Rs.gt a b = decide (b < a) := rfl

theorem le_int (a b : Int) : Rs.le a b = decide (a ≤ b) := rfl

end JL.Lemmas.TieC
