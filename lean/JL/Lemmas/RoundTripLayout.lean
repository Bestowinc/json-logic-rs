import JL.Lemmas.RoundTripParse
import JL.Lemmas.Digits
/-!
# Round trips — the layout of `format` (fixed or exponent notation) is a decimal literal spelling the decimal it was
laid out from, so `str_to_number` / `parse_float` read the printed text back as `ofDecimal` of that decimal
-/
namespace JL.Lemmas.RoundTrip
open JL JL.F64 JL.JsOp JL.Lemmas.StrNum

/-- the trailing-zero loop of `format`, verbatim -/
def stripLoop (c0 : Nat) (p0 : Int) : Nat × Int := Id.run do
  let mut c := c0; let mut p := p0
  for _ in [0:20] do
    if c % 10 == 0 && c != 0 then c := c / 10; p := p + 1
  return (c, p)

/-- the layout stage of `format`, verbatim -/
def layout (n : Bool) (c : Nat) (p : Int) : Str :=
  let sgn : Str := if n then ['-'] else []
  let ds := natToStr c
  let len := ds.length
  let decExp : Int := p + (len : Int) - 1
  if -5 ≤ decExp && decExp ≤ 15 then
    if (len : Int) - 1 ≤ decExp then
      sgn ++ ds ++ List.replicate (decExp.toNat + 1 - len) '0' ++ ['.', '0']
    else if 0 ≤ decExp then
      sgn ++ ds.take (decExp.toNat + 1) ++ ['.'] ++ ds.drop (decExp.toNat + 1)
    else
      sgn ++ ['0', '.'] ++ List.replicate ((-decExp).toNat - 1) '0' ++ ds
  else
    let mant : Str := if len == 1 then ds else ds.take 1 ++ ['.'] ++ ds.drop 1
    let es : Str := if decExp ≥ 0 then ['e', '+'] ++ natToStr decExp.toNat else ['e', '-'] ++ natToStr (-decExp).toNat
    sgn ++ mant ++ es

/-- `format` of a finite double is `shortest`, then `stripLoop`, then `layout` (definitional) -/
theorem format_fin (n : Bool) (k : Nat) :
    format (fin n k) =
      if k == 0 then (if n then ['-'] else []) ++ ['0', '.', '0']
      else layout n (stripLoop (shortest k).1 (shortest k).2).1 (stripLoop (shortest k).1 (shortest k).2).2 := rfl

theorem format_zero (n : Bool) : format (fin n 0) = (if n then ['-'] else []) ++ ['0', '.', '0'] := rfl

/-! ## the four layouts -/

/-- `t` is a signed decimal literal spelling `c · 10^p`, the point possibly moved: mantissa `c · 10^j`, exponent `p − j` -/
def LitOf (n : Bool) (c : Nat) (p : Int) (t : Str) : Prop :=
  ∃ L, ∃ j : Nat, t = (if n then ['-'] else []) ++ L ∧ DecLit L (c * 10 ^ j) (p - j)

theorem layout_fixed_int (n : Bool) (c : Nat) (p : Int) (hp : 0 ≤ p) :
    LitOf n c p ((if n then ['-'] else []) ++ natToStr c ++ List.replicate p.toNat '0' ++ ['.', '0']) := by
  refine ⟨_, p.toNat + 1, by simp, .mk (I := natToStr c ++ List.replicate p.toNat '0') (F := ['0']) (dot := true)
    ?_ ?_ (by simp) nofun .nil ?_ (by simp; omega)⟩
  · intro x hx
    exact (List.mem_append.mp hx).elim (natToStr_digits c x) (zeros_digits _ x)
  · intro x hx; rw [List.mem_singleton.mp hx]; decide
  · rw [digitsVal_append, digitsVal_append, digitsVal_natToStr, digitsVal_zeros, digitsVal_single]
    simp [digitVal, Nat.pow_succ, Nat.mul_assoc]

/-- a split of the digits of `c` into integer and fraction part: `I ++ F = natToStr c`, up to leading zeros -/
theorem litOf_split (n : Bool) (c : Nat) (p : Int) (I F X : Str) (ev : Int) (dot : Bool) (hI : ∀ x ∈ I, isDigit x = true)
    (hF : ∀ x ∈ F, isDigit x = true) (hpos : I ≠ []) (hdot : dot = false → F = []) (hX : ExpLit X ev)
    (hv : digitsVal (I ++ F) = c) (he : ev - (F.length : Int) = p) :
    LitOf n c p ((if n then ['-'] else []) ++ (I ++ ((if dot then '.' :: F else []) ++ X))) :=
  ⟨_, 0, rfl, .mk hI hF (Nat.add_pos_left (List.length_pos_iff.mpr hpos) _) hdot hX (by simpa using hv.symm)
    (by simpa using he.symm)⟩

/-- the digits of `c` with the point after the `i`-th, then an exponent part -/
theorem layout_point (n : Bool) (c : Nat) (p : Int) (i : Nat) (X : Str) (E : Int) (hi : 1 ≤ i)
    (hil : i < (natToStr c).length) (hX : ExpLit X E) (hp : p = E + (i : Int) - ((natToStr c).length : Int)) :
    LitOf n c p ((if n then ['-'] else []) ++ (natToStr c).take i ++ ['.'] ++ (natToStr c).drop i ++ X) := by
  have := litOf_split n c p ((natToStr c).take i) ((natToStr c).drop i) X E true
    (fun x hx => natToStr_digits c x (List.mem_of_mem_take hx)) (fun x hx => natToStr_digits c x (List.mem_of_mem_drop hx))
    (fun h => by have := congrArg List.length h; simp only [List.length_take, List.length_nil] at this; omega)
    nofun hX (by rw [List.take_append_drop, digitsVal_natToStr]) (by rw [List.length_drop, hp]; omega)
  simpa using this

theorem layout_fixed_small (n : Bool) (c : Nat) (p : Int) (z : Nat)
    (hp : p = -((z : Int) + ((natToStr c).length : Int))) :
    LitOf n c p ((if n then ['-'] else []) ++ ['0', '.'] ++ List.replicate z '0' ++ natToStr c) := by
  have := litOf_split n c p ['0'] (List.replicate z '0' ++ natToStr c) [] 0 true
    (fun x hx => by rw [List.mem_singleton.mp hx]; decide)
    (fun x hx => (List.mem_append.mp hx).elim (zeros_digits _ x) (natToStr_digits c x))
    nofun nofun .nil
    (by rw [digitsVal_append, digitsVal_zeros_append, digitsVal_natToStr, digitsVal_single]; simp [digitVal])
    (by rw [List.length_append, List.length_replicate, hp]; omega)
  simpa using this

theorem expLit_es (E : Int) :
    ExpLit (if E ≥ 0 then ['e', '+'] ++ natToStr E.toNat else ['e', '-'] ++ natToStr (-E).toNat) E := by
  split
  · have := ExpLit.cons (c := 'e') (neg := false) (.inl rfl) (.inr (.inl ⟨rfl, rfl⟩)) (natToStr_ne_nil E.toNat)
      (natToStr_digits _)
    rwa [digitsVal_natToStr, if_neg Bool.false_ne_true, Int.toNat_of_nonneg ‹_›] at this
  · have := ExpLit.cons (c := 'e') (neg := true) (.inl rfl) (.inr (.inr ⟨rfl, rfl⟩)) (natToStr_ne_nil (-E).toNat)
      (natToStr_digits _)
    rwa [digitsVal_natToStr, if_pos rfl, Int.toNat_of_nonneg (by omega), Int.neg_neg] at this

theorem layout_exp (n : Bool) (c : Nat) (p : Int) (X : Str) (E : Int) (hX : ExpLit X E)
    (hE : E = p + ((natToStr c).length : Int) - 1) :
    LitOf n c p ((if n then ['-'] else []) ++
      (if ((natToStr c).length == 1) = true then natToStr c
        else (natToStr c).take 1 ++ ['.'] ++ (natToStr c).drop 1) ++ X) := by
  have hlen := natToStr_length_pos c
  by_cases h1 : (natToStr c).length = 1
  · rw [show ((natToStr c).length == 1) = true by simpa using h1, if_pos rfl]
    have := litOf_split n c p (natToStr c) [] X E false (natToStr_digits c) nofun (natToStr_ne_nil c) (fun _ => rfl) hX
      (by rw [List.append_nil, digitsVal_natToStr]) (by simp; omega)
    simpa using this
  · rw [show ((natToStr c).length == 1) = false by simpa using h1, if_neg Bool.false_ne_true]
    simpa using layout_point n c p 1 X E (Nat.le_refl 1) (by omega) hX (by omega)

/-- **layout**: whatever branch `format` takes, the text is a decimal literal whose value is the decimal `c · 10^p` it
was laid out from -/
theorem layout_lit (n : Bool) (c : Nat) (p : Int) : LitOf n c p (layout n c p) := by
  have hlen : 0 < (natToStr c).length := natToStr_length_pos c
  unfold layout
  dsimp only
  refine ite_intro (fun _ => ite_intro (fun h1 => ?_) (fun h1 => ite_intro (fun h2 => ?_) (fun h2 => ?_)))
    (fun _ => layout_exp n c p _ _ (expLit_es _) rfl)
  · rw [show (p + ((natToStr c).length : Int) - 1).toNat + 1 - (natToStr c).length = p.toNat by omega]
    exact layout_fixed_int n c p (by omega)
  · have := layout_point n c p ((p + ((natToStr c).length : Int) - 1).toNat + 1) [] 0 (by omega) (by omega)
      .nil (by omega)
    rwa [List.append_nil] at this
  · exact layout_fixed_small n c p _ (by omega)

/-! ## reading the printed text back -/

theorem layout_reads (n : Bool) (c : Nat) (p : Int) :
    (∃ j : Nat, ReadsAs (layout n c p) (ofDecimal n (c * 10 ^ j) (p - j))) ∧ ∀ x ∈ layout n c p, NumChar x := by
  obtain ⟨L, j, ht, hl⟩ := layout_lit n c p
  rw [ht]
  exact ⟨⟨j, readsAs_lit n hl⟩, decLit_numChars n hl⟩

end JL.Lemmas.RoundTrip
