import JL.Lemmas.Monad
import JL.Spec.Path
/-!
# Lemmas for C12 (`missing` / `missing_some`)

The two folds of the code are related to the specification's vocabulary (`isAbsent`, `isPresent`, `BadBefore`,
`dedupFrom`) one key at a time; everything else is induction over these step equations.
-/
namespace JL.Lemmas.C12
open JL Json Data JL.Spec.Missing

theorem isAbsent_iff {d k : Json} :
    isAbsent d k = true ↔ ∃ key, keyOf k = some key ∧ key ≠ .null ∧ getKey d key = none := by
  unfold isAbsent
  cases keyOf k with
  | none => simp
  | some key => cases key <;> simp

/-! ## one key of each fold -/

theorem missingFold_cons (d k : Json) (rest acc : List Json) :
    missingFold d (k :: rest) acc =
      if keyOf k = none then ⟨[], .err⟩
      else missingFold d rest (if isAbsent d k then acc ++ [k] else acc) := by
  rw [missingFold, isAbsent]
  cases keyOf k with
  | none => rfl
  | some key =>
    cases key with
    | null => rfl
    | string s => cases h : getKey d (.string s) <;> simp [h]
    | number i => cases h : getKey d (.number i) <;> simp [h]

theorem missingSomeFold_cons (d : Json) (n : Nat) (k : Json) (rest : List Json) (c : Nat) (m : List Json) :
    missingSomeFold d n (k :: rest) (c, m) =
      if n ≤ c then missingSomeFold d n rest (c, m)
      else if keyOf k = none then ⟨[], .err⟩
      else missingSomeFold d n rest (c + (if isPresent d k then 1 else 0),
          if isAbsent d k then (if Json.contains m k then m else m ++ [k]) else m) := by
  rw [missingSomeFold, isAbsent, isPresent]
  cases keyOf k with
  | none => rfl
  | some key =>
    cases key with
    | null => rfl
    | string s => cases h : getKey d (.string s) <;> simp [h]
    | number i => cases h : getKey d (.number i) <;> simp [h]

theorem missingFold_eq (d : Json) (ks acc : List Json) :
    missingFold d ks acc =
      if ∀ k ∈ ks, ValidKey k then ⟨[], .ok (acc ++ ks.filter (isAbsent d))⟩ else ⟨[], .err⟩ := by
  induction ks generalizing acc with
  | nil => simp [missingFold]
  | cons k rest ih =>
    rw [missingFold_cons, ih, List.filter_cons]
    by_cases hk : keyOf k = none
    · rw [if_pos hk, if_neg fun h => h k List.mem_cons_self hk]
    · simp only [hk, List.forall_mem_cons, ValidKey, ne_eq, not_false_eq_true, true_and, if_false]
      cases isAbsent d k <;> simp

theorem contains_append (xs ys : List Json) (x : Json) :
    Json.contains (xs ++ ys) x = (Json.contains xs x || Json.contains ys x) := by
  simp [Json.contains]

theorem dedupFrom_sublist (seen xs : List Json) : (dedupFrom seen xs).Sublist xs := by
  fun_induction dedupFrom seen xs with
  | case1 => exact .slnil
  | case2 seen x xs _ ih => exact ih.trans (List.sublist_cons_self _ _)
  | case3 seen x xs _ ih => exact ih.cons_cons _

theorem dedupFrom_not_seen (seen xs : List Json) : ∀ y ∈ dedupFrom seen xs, Json.contains seen y = false := by
  fun_induction dedupFrom seen xs with
  | case1 => nofun
  | case2 seen x xs _ ih => exact ih
  | case3 seen x xs hx ih =>
    intro y hy
    rcases List.mem_cons.1 hy with rfl | hy
    · exact Bool.eq_false_iff.2 hx
    · exact (Bool.or_eq_false_iff.1 (contains_append .. ▸ ih y hy)).1

theorem dedupFrom_pairwise (seen xs : List Json) :
    (dedupFrom seen xs).Pairwise (fun a b => Json.beq a b = false) := by
  fun_induction dedupFrom seen xs with
  | case1 => exact .nil
  | case2 seen x xs _ ih => exact ih
  | case3 seen x xs _ ih =>
    refine .cons (fun y hy => ?_) ih
    have := dedupFrom_not_seen _ _ y hy
    rw [contains_append, Bool.or_eq_false_iff] at this
    simpa [Json.contains] using this.2

/-- the step of `missingSomeFold_ok`: `m ++ dedupFrom m ·` is unchanged when the fold moves the head into `m`, or skips
it because `m` holds a `beq`-equal value, so the fold's list and the specification's `dedup` stay in step -/
theorem append_dedupFrom_cons (m : List Json) (x : Json) (xs : List Json) :
    m ++ dedupFrom m (x :: xs) =
      (if Json.contains m x then m else m ++ [x]) ++ dedupFrom (if Json.contains m x then m else m ++ [x]) xs := by
  rw [dedupFrom]; split <;> simp

theorem dedupFrom_covers (seen xs : List Json) :
    ∀ x ∈ xs, x ∈ dedupFrom seen xs ∨ Json.contains (seen ++ dedupFrom seen xs) x = true := by
  fun_induction dedupFrom seen xs with
  | case1 => nofun
  | case2 seen y xs hy ih =>
    intro x hx
    rcases List.mem_cons.1 hx with rfl | hx
    · exact .inr (by rw [contains_append, hy]; rfl)
    · exact ih x hx
  | case3 seen y xs hy ih =>
    intro x hx
    rcases List.mem_cons.1 hx with rfl | hx
    · exact .inl List.mem_cons_self
    · exact (ih x hx).imp (List.mem_cons_of_mem _) fun h => by rwa [List.append_assoc] at h

/-! ## the early-exit fold of `missing_some` -/

theorem present_cons (d k : Json) (rest : List Json) :
    present d (k :: rest) = (if isPresent d k then 1 else 0) + present d rest :=
  List.countP_cons.trans (Nat.add_comm ..)

theorem badBefore_cons (d : Json) (n : Nat) (k : Json) (rest : List Json) :
    BadBefore d n (k :: rest) ↔
      0 < n ∧ (keyOf k = none ∨ BadBefore d (n - if isPresent d k then 1 else 0) rest) := by
  constructor
  · rintro ⟨pre, x, post, he, hx, hlt⟩
    cases pre with
    | nil => cases he; exact ⟨Nat.zero_lt_of_lt hlt, .inl hx⟩
    | cons y pre =>
      cases he
      rw [present_cons] at hlt
      exact ⟨Nat.zero_lt_of_lt hlt, .inr ⟨pre, x, post, rfl, hx, Nat.lt_sub_iff_add_lt'.2 hlt⟩⟩
  · rintro ⟨hn, hk | ⟨pre, x, post, rfl, hx, hlt⟩⟩
    · exact ⟨[], k, rest, rfl, hk, hn⟩
    · exact ⟨k :: pre, x, post, rfl, hx, present_cons .. ▸ Nat.lt_sub_iff_add_lt'.1 hlt⟩

theorem not_badBefore_zero (d : Json) (keys : List Json) : ¬ BadBefore d 0 keys := by
  rintro ⟨_, _, _, _, _, h⟩; cases h

/-- The fold started at count `c` is the fold for the threshold `n - c`: it fails when an invalid key comes
before `n - c` further keys are found … -/
theorem missingSomeFold_err (d : Json) (n : Nat) (keys : List Json) (c : Nat) (m : List Json)
    (hb : BadBefore d (n - c) keys) : missingSomeFold d n keys (c, m) = ⟨[], .err⟩ := by
  induction keys generalizing c m with
  | nil => obtain ⟨pre, _, _, h, _⟩ := hb; cases pre <;> cases h
  | cons k rest ih =>
    obtain ⟨hn, hb⟩ := (badBefore_cons ..).1 hb
    rw [missingSomeFold_cons, if_neg (Nat.not_le.2 (Nat.lt_of_sub_pos hn))]
    by_cases hk : keyOf k = none
    · rw [if_pos hk]
    · rw [if_neg hk]
      exact ih _ _ (Nat.sub_add_eq .. ▸ hb.resolve_left hk)

/-- … and otherwise `missing_some` makes of its result `[]` if `n - c` further keys are found, else the list `m`
followed by the absent keys not yet in it. Stated on the result: once the count has reached `n` the fold skips the
remaining keys, so its final state is not the count and list of all of `keys`. -/
theorem missingSomeFold_ok (d : Json) (n : Nat) (keys : List Json) (c : Nat) (m : List Json)
    (hb : ¬ BadBefore d (n - c) keys) :
    (missingSomeFold d n keys (c, m) >>= fun st => pure (Json.arr (if st.1 ≥ n then [] else st.2))) =
      ⟨[], .ok (.arr (if n ≤ present d keys + c then [] else m ++ dedupFrom m (keys.filter (isAbsent d))))⟩ := by
  induction keys generalizing c m with
  | nil => simp [missingSomeFold, present, dedupFrom]
  | cons k rest ih =>
    rw [missingSomeFold_cons]
    rw [badBefore_cons] at hb
    by_cases hc : n ≤ c
    · rw [if_pos hc, ih c m (by rw [Nat.sub_eq_zero_of_le hc]; exact not_badBefore_zero d rest),
        if_pos (Nat.le_trans hc (Nat.le_add_left ..)), if_pos (Nat.le_trans hc (Nat.le_add_left ..))]
    · have hn : 0 < n - c := Nat.sub_pos_of_lt (Nat.lt_of_not_le hc)
      rw [if_neg hc, if_neg fun hk => hb ⟨hn, .inl hk⟩, ih _ _ (Nat.sub_add_eq .. ▸ fun h => hb ⟨hn, .inr h⟩),
        present_cons, Nat.add_comm _ (present d rest), Nat.add_assoc, Nat.add_comm _ c, List.filter_cons]
      cases isAbsent d k
      · rfl
      · rw [if_pos rfl, if_pos rfl, append_dedupFrom_cons]

theorem missingSome_eq (d : Json) (thr : Num) (n : Nat) (hn : thr.asU64 = some n) (keys rest : List Json) :
    missingSome d (.num thr :: .arr keys :: rest) =
      missingSomeFold d n keys (0, []) >>= fun st => pure (.arr (if st.1 ≥ n then [] else st.2)) := by
  unfold missingSome
  simp only [hn]

end JL.Lemmas.C12
