import JL.Lemmas.C13
import JL.Lemmas.Exec
/-!
# What the operators themselves write to the trace (only `log` does), and the rules `{"var": i}` that stand for
precomputed operand values in the substitution law of C04
-/
namespace JL
open Json

/-! ## the operators' own traces -/

theorem compare_logs (f : Json → Json → Bool) (vs : List Json) : (compare f vs).logs = [] :=
  M.logs_nil_of_post (compare_post (np := False) (P := fun _ => True) f vs False.elim fun _ => trivial)
theorem numResult_logs (r : Option F64) : (numResult r).logs = [] :=
  M.logs_nil_of_post (numResult_post (np := False) (P := fun _ => True) r fun _ _ _ _ => trivial)

/-- the operator's own trace: only `log` has one — its evaluated operand, once -/
def ownTrace (k : Str) (vs : List Json) : List Json :=
  if k = "log".toList then (match vs with | a :: _ => [a] | [] => []) else []

theorem execEager_logs (k : Str) (vs : List Json) : (execEager k vs).logs = ownTrace k vs := by
  unfold ownTrace
  split
  next h => rw [h, execEager_log]; cases vs <;> rfl
  next hlog =>
    -- row by row; the rows are grouped by the shape of their branch
    rw [execEager_chain]
    refine rowChain_of_rows (P := fun m => m.logs = []) rfl ?_
    simp only [eagerRows, List.forall_mem_cons, List.not_mem_nil, false_imp_iff, implies_true, and_true]
    refine ⟨?eq, ?ne, ?seq, ?sne, ?not, ?notnot, ?lt, ?le, ?gt, ?ge, ?plus, ?times, ?minus, ?div, ?mod, ?max, ?min, ?merge,
      ?in_, ?cat, ?substr, ?log⟩
    all_goals intro h
    case eq | ne | seq | sne | not | notnot => split <;> rfl
    case lt | le | gt | ge => exact compare_logs _ _
    case plus | times | max | min => exact numResult_logs _
    case minus | div | mod => split <;> first | exact numResult_logs _ | rfl
    case merge | cat => rfl
    case in_ =>
      split
      · split <;> rfl
      · rfl
    case substr => split <;> first | exact M.ofOption_logs _ | rfl
    case log => exact absurd h.symm hlog

theorem execData_logs (k : Str) (d : Json) (vs : List Json) : (execData k d vs).logs = [] :=
  M.logs_nil_of_post (execData_post (np := False) preserved_true k False.elim trivial fun _ _ => trivial)

/-! ## positional references into precomputed values -/

/-- the rule `{"var": i}`: a reference to position `i` of the data -/
def varRule (i : Nat) : Json := .obj [("var".toList, .num (.pos i))]
/-- `[{"var":0}, …, {"var":n-1}]` -/
def varRules (n : Nat) : List Json := (List.range n).map varRule

theorem varRules_length (n : Nat) : (varRules n).length = n := by simp [varRules]

theorem check_varRule (i : Nat) : check (varRule i) = true := by
  rw [varRule, check_op lookup_var]; rfl

theorem checkList_varRules (n : Nat) : checkList (varRules n) = true :=
  (checkList_iff _).mpr fun a ha => by obtain ⟨i, -, rfl⟩ := List.mem_map.mp ha; exact check_varRule i

/-- `h63`: `var` reads a numeric key through `Number::as_i64` (`Data.keyOf`), which refuses a `PosInt` from `2^63` on -/
theorem run_varRule (vs : List Json) (i : Nat) (hi : i < vs.length) (h63 : i < 2^63) :
    run (varRule i) (.arr vs) = ⟨[], .ok vs[i]⟩ := by
  rw [varRule, run_data lookup_var, execData_var]
  show var (.arr vs) [.num (.pos i)] = _
  simp [var, Data.keyOf, Num.asI64, h63, Data.getKey, Data.get, hi]

theorem runList_map_varRule (vs : List Json) (is : List Nat) (h : ∀ i ∈ is, i < vs.length ∧ i < 2^63) :
    runList (is.map varRule) (.arr vs) = ⟨[], .ok (is.map (fun i => vs.getD i .null))⟩ := by
  induction is with
  | nil => rw [List.map_nil, runList_nil]; rfl
  | cons i is ih =>
    obtain ⟨h1, h2⟩ := h i List.mem_cons_self
    rw [List.map_cons, runList_cons, run_varRule vs i h1 h2, ih (fun j hj => h j (List.mem_cons_of_mem _ hj))]
    simp [List.getD, h1]

theorem runList_varRules (vs : List Json) (hn : vs.length ≤ 2^63) :
    runList (varRules vs.length) (.arr vs) = ⟨[], .ok vs⟩ := by
  unfold varRules
  rw [runList_map_varRule vs _ (fun i hi => by
    have := List.mem_range.mp hi
    exact ⟨this, by omega⟩)]
  congr 2
  apply List.ext_getElem
  · simp
  · intro i h1 h2
    simp [List.getD, h2]

/-! ## operand values given through the public entry point -/

theorem check_of_apply_ok {a d v : Json} (h : (apply a d).out = .ok v) : check a = true := by
  cases hc : check a
  · rw [apply_of_not_check hc] at h; cases h
  · rfl

theorem runList_of_apply_vals (as vs : List Json) (d : Json)
    (h : as.map (fun a => (apply a d).out) = vs.map Out.ok) :
    checkList as = true ∧ runList as d = ⟨as.flatMap (fun a => (run a d).logs), .ok vs⟩ := by
  have hc : ∀ a ∈ as, check a = true := fun a ha => by
    have hm : (apply a d).out ∈ vs.map Out.ok := h ▸ List.mem_map_of_mem (f := fun a => (apply a d).out) ha
    obtain ⟨v, -, hv⟩ := List.mem_map.mp hm
    exact check_of_apply_ok hv.symm
  refine ⟨(checkList_iff as).mpr hc, ?_⟩
  rw [runList_eq_mapData, mapData_ok_iff, ← h]
  exact ⟨List.map_congr_left fun a ha => by rw [apply_of_check (hc a ha)], rfl⟩

end JL
