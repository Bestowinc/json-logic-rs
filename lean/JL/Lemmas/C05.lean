import JL.Lemmas.Run
import JL.Spec.C05
/-! Helper lemmas for C05: the flag-carrying folds of `logic.rs` against the recursive specification. -/
namespace JL.Lemmas.C05
open JL Json JL.Props.C05

theorem lookup_tern : lookupOp "?:".toList = some (.lazy, .any) := JL.lookup_tern

theorem ev_eq_apply (d e : Json) : ev d e = apply e d := rfl


theorem lookup_if_tern {k : Str} (hk : k = "if".toList ∨ k = "?:".toList) : lookupOp k = some (.lazy, .any) := by
  rcases hk with rfl | rfl
  · exact lookup_if
  · exact JL.lookup_tern

theorem lookup_or_and {k : Str} (hk : k = "or".toList ∨ k = "and".toList) : lookupOp k = some (.lazy, .atLeast 1) := by
  rcases hk with rfl | rfl
  · exact lookup_or
  · exact lookup_and

/-- once `should_return` is set the fold of `if` only carries the value to the end -/
theorem runIf_done (xs : List Json) (i : Nat) (l : Json) (w : Bool) (d : Json) :
    runIf xs i (l, w, true) d = pure l := by
  induction xs generalizing i with
  | nil => simp [runIf]
  | cons x xs ih => rw [runIf]; simp [ih]

/-- a condition position (even index): the operand is parsed and evaluated, the truthiness of its value recorded -/
theorem runIf_cond {c : Json} {rest : List Json} {i : Nat} {last : Json} {w : Bool} {d : Json} (hi : i % 2 = 0) :
    runIf (c :: rest) i (last, w, false) d =
      if check c then (do let cv ← run c d; runIf rest (i + 1) (cv, truthy cv, false) d) else M.err := by
  simp [runIf, hi]

/-- a branch position (odd index): taken iff the condition before it was truthy, and then the fold returns -/
theorem runIf_branch {t : Json} {rest : List Json} {i : Nat} {last : Json} {w : Bool} {d : Json} (hi : i % 2 = 1) :
    runIf (t :: rest) i (last, w, false) d =
      if w then (if check t then (do let tv ← run t d; runIf rest (i + 1) (tv, true, true) d) else M.err)
      else runIf rest (i + 1) (.null, w, false) d := by
  simp [runIf, hi]

/-- the fold of `if` entered at a condition position with a clean state is the specification -/
theorem runIf_even : ∀ (xs : List Json) (i : Nat) (w : Bool) (d : Json), i % 2 = 0 →
    runIf xs i (.null, w, false) d = ifSpec d xs
  | [], _, _, _, _ => by rw [runIf]; rfl
  | [e], i, w, d, h => by
      rw [runIf_cond h, ifSpec, ev]
      simp only [runIf, M.bind_pure]
  | c :: t :: rest, i, w, d, h => by
      rw [runIf_cond h, ifSpec, ev_eq_apply, apply_bind]
      split
      · refine M.bind_congr fun cv _ => ?_
        rw [runIf_branch (by rw [Nat.add_mod, h])]
        cases truthy cv
        · exact runIf_even rest (i + 1 + 1) false d ((Nat.add_mod_right i 2).trans h)
        · simp only [if_true, ev, runIf_done, M.bind_pure]
      · rfl

/-- the `if`/`?:` branch of `run` as the model writes it (what the translated `logic::if_` is compared with): a bare
operand and the operand lists of length 0 and 1 do not enter the fold -/
theorem run_if_raw {k : Str} (hk : k = "if".toList ∨ k = "?:".toList) (v d : Json) :
    run (.obj [(k, v)]) d =
      match v with
      | .arr [] => pure .null
      | .arr [x] => ev d x
      | .arr xs => runIf xs 0 (.null, false, false) d
      | x => ev d x := by
  unfold run
  simp only [lookup_if_tern hk]
  rw [if_pos (by simpa only [Bool.or_eq_true, decide_eq_true_eq] using hk)]
  rfl

/-- `if`/`?:` on both operand shapes: a bare operand is the one-element list (`ifSpec d [x] = ev d x`) -/
theorem run_if {k : Str} (hk : k = "if".toList ∨ k = "?:".toList) (v d : Json) :
    run (.obj [(k, v)]) d = ifSpec d (operands v) := by
  rw [run_if_raw hk]
  rcases v with _ | _ | _ | _ | ⟨_ | ⟨x, _ | ⟨y, rest⟩⟩⟩ | _ <;> first | rfl | exact runIf_even _ 0 false d rfl

theorem run_if_arr {k : Str} (hk : k = "if".toList ∨ k = "?:".toList) (xs : List Json) (d : Json) :
    run (.obj [(k, .arr xs)]) d = ifSpec d xs := run_if hk _ d

/-- `?:` is bound to the function of `if` -/
theorem run_tern (xs : List Json) (d : Json) :
    run (.obj [("?:".toList, .arr xs)]) d = run (.obj [("if".toList, .arr xs)]) d := by
  rw [run_if_arr (.inl rfl), run_if_arr (.inr rfl)]

theorem run_if_unary {k : Str} (hk : k = "if".toList ∨ k = "?:".toList) (x d : Json) (hx : ∀ xs, x ≠ .arr xs) :
    run (.obj [(k, x)]) d = ev d x := by
  rw [run_if hk, operands_of_not_arr hx]; rfl

/-- `check` accepts every `if`/`?:` rule: the parse of a lazy operator with arity `any` cannot fail -/
theorem check_if {k : Str} (hk : k = "if".toList ∨ k = "?:".toList) (v : Json) : check (.obj [(k, v)]) = true := by
  rw [check_op (lookup_if_tern hk)]
  cases v <;> rfl

/-! ## `or` / `and` -/

/-- the common shape of `orSpec` (`isOr = true`) and `andSpec` (`isOr = false`) -/
def oaSpec (isOr : Bool) (d : Json) : List Json → M Json
  | [] => M.err
  | [x] => ev d x
  | x :: y :: rest => do
      let v ← ev d x
      if truthy v == isOr then pure v else oaSpec isOr d (y :: rest)

theorem oaSpec_or (d : Json) : ∀ xs, oaSpec true d xs = orSpec d xs
  | [] => rfl
  | [_] => rfl
  | x :: y :: rest => by
      simp only [oaSpec, orSpec, oaSpec_or d (y :: rest)]
      congr 1; funext v; cases truthy v <;> simp

theorem oaSpec_and (d : Json) : ∀ xs, oaSpec false d xs = andSpec d xs
  | [] => rfl
  | [_] => rfl
  | x :: y :: rest => by
      simp only [oaSpec, andSpec, oaSpec_and d (y :: rest)]
      congr 1; funext v; cases truthy v <;> simp

/-- what `logic::or` / `logic::and` return from the final fold state -/
def readOut : OrState → M Json
  | .decided r => pure r
  | .current r => pure r
  | .uninit => M.err

theorem runOrAnd_decided (isOr : Bool) (xs : List Json) (r d : Json) :
    runOrAnd isOr xs (.decided r) d = pure (.decided r) := by
  induction xs with
  | nil => simp [runOrAnd]
  | cons x xs ih => rw [runOrAnd]; simp [ih]

theorem runOrAnd_step {isOr : Bool} {d x : Json} {xs : List Json} {st : OrState} (hst : ∀ r, st ≠ .decided r) :
    runOrAnd isOr (x :: xs) st d =
      if check x then run x d >>= fun e => runOrAnd isOr xs (if truthy e == isOr then .decided e else .current e) d
      else M.err := by
  cases st with
  | decided r => exact absurd rfl (hst r)
  | uninit => rw [runOrAnd]; simp
  | current c => rw [runOrAnd]; simp

/-- For any undecided state: while an operand remains, the `current` value is dead (the next step overwrites it), so `.uninit`
and `.current e` behave alike. That is the generalisation the induction needs: the recursive call is at `.current e`. -/
theorem runOrAnd_spec (isOr : Bool) (d : Json) : ∀ (xs : List Json) (x : Json) (st : OrState),
    (∀ r, st ≠ .decided r) → (runOrAnd isOr (x :: xs) st d >>= readOut) = oaSpec isOr d (x :: xs)
  | [], x, st, hst => by
      rw [runOrAnd_step hst, oaSpec, ev]
      split
      · rw [M.bind_assoc]
        refine (M.bind_congr fun e _ => ?_).trans (M.bind_pure _)
        rw [runOrAnd]
        cases truthy e == isOr <;> rfl
      · rfl
  | y :: rest, x, st, hst => by
      rw [runOrAnd_step hst, oaSpec, ev_eq_apply, apply_bind]
      split
      · rw [M.bind_assoc]
        refine M.bind_congr fun e _ => ?_
        cases truthy e == isOr
        · exact runOrAnd_spec isOr d rest y (.current e) nofun
        · rw [if_pos rfl, if_pos rfl, runOrAnd_decided]; rfl
      · rfl

/-- the `or` and `and` branches of `run` as the model writes them (what the translated `logic::or` / `logic::and` are
compared with); `isOr` is determined by the key (callers pass `.inl ⟨rfl, rfl⟩` or `.inr ⟨rfl, rfl⟩`) -/
theorem run_oa_raw {k : Str} {isOr : Bool} (hk : k = "or".toList ∧ isOr = true ∨ k = "and".toList ∧ isOr = false)
    (v d : Json) :
    run (.obj [(k, v)]) d =
      match v with
      | .arr xs => runOrAnd isOr xs .uninit d >>= readOut
      | x => ev d x := by
  unfold run
  rcases hk with ⟨hk, rfl⟩ | ⟨hk, rfl⟩
  · lazy_key hk with lookup_or
    rfl
  · lazy_key hk with lookup_and
    rfl

/-- `or` / `and` on both operand shapes (`oaSpec isOr d [x] = ev d x`; no operand at all is an error) -/
theorem run_oa {k : Str} {isOr : Bool} (hk : k = "or".toList ∧ isOr = true ∨ k = "and".toList ∧ isOr = false)
    (v d : Json) : run (.obj [(k, v)]) d = oaSpec isOr d (operands v) := by
  rw [run_oa_raw hk]
  rcases v with _ | _ | _ | _ | ⟨_ | ⟨x, xs⟩⟩ | _ <;> first | rfl | exact runOrAnd_spec isOr d xs x .uninit nofun

theorem run_or_arr {k : Str} (hk : k = "or".toList) (xs : List Json) (d : Json) :
    run (.obj [(k, .arr xs)]) d = orSpec d xs := by
  rw [run_oa (.inl ⟨hk, rfl⟩), oaSpec_or]; rfl

theorem run_and_arr {k : Str} (hk : k = "and".toList) (xs : List Json) (d : Json) :
    run (.obj [(k, .arr xs)]) d = andSpec d xs := by
  rw [run_oa (.inr ⟨hk, rfl⟩), oaSpec_and]; rfl

/-- the parse of `or`/`and` only counts the operands (at least one) -/
theorem check_oa {k : Str} (hk : k = "or".toList ∨ k = "and".toList) (xs : List Json) :
    check (.obj [(k, .arr xs)]) = decide (1 ≤ xs.length) := by
  rw [check_op (lookup_or_and hk)]
  simp [Arity.admits, Arity.isValidLen]

theorem check_oa_unary {k : Str} (hk : k = "or".toList ∨ k = "and".toList) (x : Json) (hx : ∀ xs, x ≠ .arr xs) :
    check (.obj [(k, x)]) = true := by
  rw [check_op (lookup_or_and hk), Arity.admits_of_not_arr _ hx]; rfl

/-! ## the specification depends on the operands after the deciding one not at all -/

theorem ifSpec_cond_truthy (d c t : Json) (rest : List Json) (l : List Json) (v : Json)
    (hc : ev d c = ⟨l, .ok v⟩) (hv : truthy v = true) :
    ifSpec d (c :: t :: rest) = ⟨l ++ (ev d t).logs, (ev d t).out⟩ := by
  simp [ifSpec, hc, hv]

theorem ifSpec_cond_falsy (d c t : Json) (rest : List Json) (l : List Json) (v : Json)
    (hc : ev d c = ⟨l, .ok v⟩) (hv : truthy v = false) :
    ifSpec d (c :: t :: rest) = ⟨l ++ (ifSpec d rest).logs, (ifSpec d rest).out⟩ := by
  simp [ifSpec, hc, hv]

theorem ifSpec_cond_fail (d c : Json) (rest : List Json) (hc : ∀ v, (ev d c).out ≠ .ok v) :
    ifSpec d (c :: rest) = ev d c := by
  cases rest with
  | nil => rfl
  | cons t r => simp only [ifSpec]; exact M.bind_of_not_ok hc

/-- whole (condition, branch) pairs in front do not look at what follows them except through its result -/
theorem ifSpec_prefix {d : Json} {r r' : List Json} (h : ifSpec d r = ifSpec d r') :
    ∀ pre : List Json, pre.length % 2 = 0 → ifSpec d (pre ++ r) = ifSpec d (pre ++ r')
  | [], _ => h
  | [_], hp => by simp at hp
  | c :: t :: pre, hp => by
      have ih := ifSpec_prefix h pre ((Nat.add_mod_right pre.length 2).symm.trans hp)
      simp only [List.cons_append, ifSpec, ih]

theorem oaSpec_decided (isOr : Bool) (d x : Json) (ys : List Json) (l : List Json) (v : Json)
    (hx : ev d x = ⟨l, .ok v⟩) (hv : truthy v = isOr) : oaSpec isOr d (x :: ys) = ⟨l, .ok v⟩ := by
  cases ys with
  | nil => exact hx
  | cons y r => simp [oaSpec, hx, hv]

theorem oaSpec_fail (isOr : Bool) (d x : Json) (ys : List Json) (hx : ∀ v, (ev d x).out ≠ .ok v) :
    oaSpec isOr d (x :: ys) = ev d x := by
  cases ys with
  | nil => rfl
  | cons y r => simp only [oaSpec]; exact M.bind_of_not_ok hx

/-- operands in front of a non-empty remainder look at it only through its result -/
theorem oaSpec_prefix (isOr : Bool) (d y y' : Json) (r r' : List Json) (h : oaSpec isOr d (y :: r) = oaSpec isOr d (y' :: r')) :
    ∀ pre : List Json, oaSpec isOr d (pre ++ y :: r) = oaSpec isOr d (pre ++ y' :: r')
  | [] => h
  | x :: pre => by
      have ih := oaSpec_prefix isOr d y y' r r' h pre
      cases pre with
      | nil => simp only [List.cons_append, List.nil_append, oaSpec] at ih ⊢; rw [h]
      | cons z pre => simp only [List.cons_append, oaSpec] at ih ⊢; rw [ih]
