import JL.Lemmas.RoundTripRound
import JL.Lemmas.List
/-!
# Round trips — seventeen significant digits always suffice (the arithmetic)

`shortest` tries 1, 2, …, 17 digits and returns `(0, 0)` only if all fail. Here: why the 17-digit attempt cannot fail
on a (non-zero) double.

* `floorLog10_le` — the decimal exponent estimate never overshoots (`10^e ≤ value`); the starting estimate is
  checked for each of the 2098 possible bit lengths by kernel evaluation, the fix-up loop keeps the invariant;
* `last_iter_ok`  — with `10^16 · spacing ≤ value < 2^53 · ulp` the decimal grid is finer than the rounding
  interval (`10^16 > 2^53`), so the candidate below or the candidate above the exact value is strictly inside.
-/
namespace JL.Lemmas.RoundTrip
open JL JL.F64
-- only silences "exponent exceeds the threshold" where `S` / `OVF` are unfolded; no proof depends on it
set_option exponentiation.threshold 4096

/-! ## powers of ten in units -/

/-- `10^p` units (of 2^-1074) as a fraction `A/B`: the pair `shortest` computes for the exponent `p` -/
def scale (p : Int) : Nat × Nat := if p ≥ 0 then (10 ^ p.toNat * S, 1) else (S, 10 ^ (-p).toNat)

theorem scale_pos (p : Int) : 0 < (scale p).1 ∧ 0 < (scale p).2 := by
  unfold scale
  split
  · exact ⟨Nat.mul_pos (Nat.pow_pos (by decide)) S_pos, Nat.one_pos⟩
  · exact ⟨S_pos, Nat.pow_pos (by decide)⟩

/-- `10^(p+j) = 10^j · 10^p`, cross-multiplied -/
theorem scale_shift (p : Int) (j : Nat) :
    (scale (p + j)).1 * (scale p).2 = 10 ^ j * (scale p).1 * (scale (p + j)).2 := by
  unfold scale
  generalize S = s
  by_cases h1 : p ≥ 0
  · rw [if_pos h1, if_pos (Int.add_nonneg h1 (Int.natCast_nonneg j)), Int.toNat_add_nat h1, Nat.pow_add, Nat.mul_one,
      Nat.mul_one, Nat.mul_comm (10 ^ p.toNat), Nat.mul_assoc]
  · rw [if_neg h1]
    by_cases h2 : p + j ≥ 0
    · have hj : j = (p + j).toNat + (-p).toNat := by omega
      rw [if_pos h2, Nat.mul_one]
      conv => rhs; rw [hj, Nat.pow_add]
      rw [Nat.mul_right_comm, Nat.mul_assoc]
    · have hp : (-p).toNat = j + (-(p + j)).toNat := by omega
      rw [if_neg h2, hp, Nat.pow_add, Nat.mul_comm (10 ^ j) s, Nat.mul_assoc]

/-! ## the exponent estimate -/

/-- `10^e ≤ k · 2^-1074`, cross-multiplied -/
def Le10 (k : Nat) (e : Int) : Prop := (scale e).1 ≤ k * (scale e).2

instance (k : Nat) (e : Int) : Decidable (Le10 k e) := by unfold Le10; exact inferInstance

/-- the starting estimate of `floorLog10` does not overshoot on the smallest magnitude of bit length `L`; that it never
does says how good `30103/100000` is for `log₁₀ 2` over the exponent range of binary64: a finite fact, checked for each `L` -/
def estOK (L : Nat) : Bool := decide (Le10 (2 ^ (L - 1)) (((L : Int) - 1075) * 30103 / 100000 - 1))

theorem estOK_all : (List.range 2099).all estOK = true := by decide +kernel

theorem le10_mono (k k' : Nat) (e : Int) (h : Le10 k e) (hk : k ≤ k') : Le10 k' e :=
  Nat.le_trans h (Nat.mul_le_mul_right _ hk)

/-- `floorLog10 k` never overshoots: `10^(floorLog10 k) ≤ k · 2^-1074` -/
theorem floorLog10_le (k : Nat) (hk0 : k ≠ 0) (hk : k < OVF) : Le10 k (floorLog10 k) := by
  have hL : bitLen k < 2099 := by
    have := (bitLen_le_iff k 2098).mpr hk; omega
  have h0 := List.all_eq_true.mp estOK_all (bitLen k) (List.mem_range.mpr hL)
  unfold estOK at h0
  have h0' := le10_mono _ k _ (of_decide_eq_true h0) (bitLen_bounds k hk0).1
  unfold floorLog10
  extract_lets L est e le10
  rw [Id.run_bind, Std.Legacy.Range.forIn_eq_forIn_range']
  refine forIn_list_inv _ _ (fun e => Le10 k e) e h0' ?_
  intro a _ b hb
  extract_lets e'
  split
  · rename_i hc
    simp only [Id.run_pure, ForInStep.value]
    have : le10 (e' + 1) = decide (Le10 k (e' + 1)) := by
      simp only [le10, Le10, scale]
      split <;> simp [*]
    rw [this] at hc
    exact of_decide_eq_true hc
  · simpa [Id.run_pure, ForInStep.value] using hb

/-- with `10^(p+16) ≤ k` units, the 17-digit candidate at exponent `p` is at least `10^16` -/
theorem scale_of_le10 (k : Nat) (p : Int) (h : Le10 k (p + 16)) : 10 ^ 16 * (scale p).1 ≤ k * (scale p).2 := by
  have h1 := Nat.mul_le_mul_right (scale p).2 h
  rw [show p + 16 = p + ((16 : Nat) : Int) from rfl, scale_shift p 16, Nat.mul_right_comm k] at h1
  exact Nat.le_of_mul_le_mul_right h1 (scale_pos _).2

/-! ## the last attempt -/

/-- of two neighbouring candidates `X ≤ T < X + A` on a grid of step `A`, finer than the gap `W` below and the gap `Z` above
`T`, one lies strictly within the gaps -/
theorem candidate_inside (X A T W Z : Nat) (h0 : A ≤ X) (h1 : X ≤ T) (h2 : T < X + A) (hW : A < W) (hZ : W ≤ Z) :
    (2 * T - W < 2 * X ∧ 2 * X < 2 * T + Z) ∨ (2 * T - W < 2 * (X + A) ∧ 2 * (X + A) < 2 * T + Z) := by
  -- if the upper one is not below `2T + Z` the lower one is above `2T − W`, as `2A < 2W ≤ W + Z`
  omega

/-- with 17 significant digits (`10^16 ≤ ⌊k·B/A⌋`) one of the two candidates around the exact value is strictly inside the
rounding interval -/
theorem last_iter_ok (k A B : Nat) (hA : 0 < A) (hAB : 10 ^ 16 * A ≤ k * B) :
    (InIv k (k * B / A * A) B ∧ 0 < k * B / A) ∨ InIv k ((k * B / A + 1) * A) B := by
  have hcf : 0 < k * B / A := Nat.lt_of_lt_of_le (by decide) ((Nat.le_div_iff_mul_le hA).mpr hAB)
  have hX1 : k * B / A * A ≤ k * B := Nat.div_mul_le_self _ _
  have hX2 : k * B < (k * B / A + 1) * A := Nat.lt_mul_of_div_lt (Nat.lt_succ_self _) hA
  have hX0 : A ≤ k * B / A * A := Nat.le_mul_of_pos_left A hcf
  rw [Nat.add_mul, Nat.one_mul] at hX2 ⊢
  generalize k * B / A * A = X at hX0 hX1 hX2 ⊢
  -- the decimal grid is finer than the binary one: `A < V·B` whenever `k ≤ 2^53·V`, since `10^16·A ≤ k·B`
  have hfine : ∀ V, k ≤ 2 ^ 53 * V → A < V * B := fun V hV => by
    have h1 : 2 ^ 53 * A < 10 ^ 16 * A := Nat.mul_lt_mul_of_pos_right (by decide) hA
    have h2 : k * B ≤ 2 ^ 53 * V * B := Nat.mul_le_mul_right B hV
    rw [Nat.mul_assoc] at h2
    exact Nat.lt_of_mul_lt_mul_left (Nat.lt_of_lt_of_le h1 (Nat.le_trans hAB h2))
  suffices h : ((interval k).1 * B < 2 * X ∧ 2 * X < (interval k).2.1 * B) ∨
      ((interval k).1 * B < 2 * (X + A) ∧ 2 * (X + A) < (interval k).2.1 * B) from
    h.imp (fun h => ⟨inIv_of_strict h.1 h.2, hcf⟩) (fun h => inIv_of_strict h.1 h.2)
  rw [interval_eq]
  simp only [Nat.add_mul, Nat.sub_mul, Nat.mul_assoc 2 k B]
  refine candidate_inside X A _ _ _ hX0 hX1 hX2 ?_ (Nat.mul_le_mul_right B ?_)
  · -- the gap below `k`: half as wide at a power of two, but then `k = 2^53·(ulp/2)`
    split
    · rename_i hpow
      obtain ⟨w, hw⟩ : ∃ w, bitLen k = w + 54 := ⟨bitLen k - 54, by omega⟩
      refine hfine _ (Nat.le_of_eq (hpow.2.trans ?_))
      rw [hw, show w + 54 - 53 = w + 1 from rfl, Nat.pow_succ (m := w), Nat.mul_div_cancel _ (by decide), ← Nat.pow_add,
        Nat.add_comm 53 w]
      rfl
    · refine hfine _ ?_
      rw [← Nat.pow_add]
      exact Nat.le_trans (Nat.le_of_lt (lt_pow_bitLen k)) (Nat.pow_le_pow_right (by decide) (by omega))
  · split
    · exact Nat.div_le_self _ _
    · exact Nat.le_refl _

end JL.Lemmas.RoundTrip
