import JL.F64
/-!
# Order lemmas for the double model (`F64.lt/le/eq/gt/ge`) and for the code-point string order `strLt`

Nothing here mentions the evaluator: these are facts about IEEE-754 comparison (NaN unordered,
`-0 = +0`, `≤` is `<` or `=`) and about lexicographic order on `List Char`.
-/
namespace JL.Lemmas.F64Order
open JL

/-! ## doubles

The comparisons order doubles lexicographically, by class (−∞, finite, +∞) and then by signed magnitude; NaN is a fourth
class that no comparison accepts. Through the three `*_iff` below every order fact is linear arithmetic.

`sval` is the form of the signed magnitude that proofs normalise to. The model's `F64.toInt?` (`toInt?_fin`) and the
specifications' `F64.units` (`units_fin`, in `Lemmas/C10`) and `Spec.IEEE.sval` (`sval_eq_order`, in `Props/C10IEEE`) are
the same integer on `fin a k`. -/

def cls : F64 → Int
  | .inf true => -1
  | .fin _ _ => 0
  | .inf false => 1
  | .nan => 2

def sval : F64 → Int
  | .fin a k => if a then -(k : Int) else k
  | _ => 0

theorem sval_fin_false (k : Nat) : sval (.fin false k) = k := rfl
theorem sval_fin_true (k : Nat) : sval (.fin true k) = -(k : Int) := rfl

theorem toInt?_fin (a : Bool) (k : Nat) : (F64.fin a k).toInt? = some (sval (.fin a k)) := rfl

theorem isNaN_eq_false_iff (x : F64) : x.isNaN = false ↔ cls x ≤ 1 := by
  rcases x with _ | ⟨_ | _⟩ | _ <;> simp [F64.isNaN, cls]

theorem lt_iff (x y : F64) : F64.lt x y = true ↔
    cls x ≤ 1 ∧ cls y ≤ 1 ∧ (cls x < cls y ∨ cls x = cls y ∧ sval x < sval y) := by
  rcases x with _ | ⟨_ | _⟩ | _ <;> rcases y with _ | ⟨_ | _⟩ | _
  all_goals simp [F64.lt, cls, sval]

theorem le_iff (x y : F64) : F64.le x y = true ↔
    cls x ≤ 1 ∧ cls y ≤ 1 ∧ (cls x < cls y ∨ cls x = cls y ∧ sval x ≤ sval y) := by
  rcases x with _ | ⟨_ | _⟩ | _ <;> rcases y with _ | ⟨_ | _⟩ | _
  all_goals simp [F64.le, cls, sval]

theorem eq_iff (x y : F64) : F64.eq x y = true ↔ cls x ≤ 1 ∧ cls x = cls y ∧ sval x = sval y := by
  rcases x with _ | ⟨_ | _⟩ | ⟨a, j⟩ <;> rcases y with _ | ⟨_ | _⟩ | ⟨b, k⟩
  case fin.fin => cases a <;> cases b <;> simp [F64.eq, cls, sval] <;> omega
  all_goals simp [F64.eq, cls, sval]

theorem lt_fin (a b : Bool) (j k : Nat) : F64.lt (.fin a j) (.fin b k) = decide (sval (.fin a j) < sval (.fin b k)) := rfl
theorem le_fin (a b : Bool) (j k : Nat) : F64.le (.fin a j) (.fin b k) = decide (sval (.fin a j) ≤ sval (.fin b k)) := rfl

/-- `x <= y` is exactly `x < y || x == y` (IEEE-754 `compareQuietLessEqual`) -/
theorem le_eq_lt_or_eq (x y : F64) : F64.le x y = (F64.lt x y || F64.eq x y) := by
  rw [Bool.eq_iff_iff, Bool.or_eq_true, le_iff, lt_iff, eq_iff]; omega

theorem lt_irrefl (x : F64) : F64.lt x x = false := by
  rw [← Bool.not_eq_true, lt_iff]; omega

theorem lt_asymm (x y : F64) (h : F64.lt x y = true) : F64.lt y x = false := by
  rw [← Bool.not_eq_true, lt_iff]; rw [lt_iff] at h; omega

theorem lt_trans (x y z : F64) (h1 : F64.lt x y = true) (h2 : F64.lt y z = true) : F64.lt x z = true := by
  rw [lt_iff] at *; omega

theorem eq_symm (x y : F64) : F64.eq x y = F64.eq y x := by
  rw [Bool.eq_iff_iff, eq_iff, eq_iff]; omega

theorem eq_refl_iff (x : F64) : F64.eq x x = !x.isNaN := by
  rw [Bool.eq_iff_iff, Bool.not_eq_true', eq_iff, isNaN_eq_false_iff]; omega

theorem eq_trans (x y z : F64) (h1 : F64.eq x y = true) (h2 : F64.eq y z = true) : F64.eq x z = true := by
  rw [eq_iff] at *; omega

theorem lt_not_eq (x y : F64) (h : F64.lt x y = true) : F64.eq x y = false := by
  rw [← Bool.not_eq_true, eq_iff]; rw [lt_iff] at h; omega

theorem nan_left (y : F64) : F64.lt .nan y = false ∧ F64.le .nan y = false ∧ F64.eq .nan y = false ∧
    F64.gt .nan y = false ∧ F64.ge .nan y = false := by
  cases y <;> simp [F64.lt, F64.le, F64.eq, F64.gt, F64.ge]
theorem nan_right (x : F64) : F64.lt x .nan = false ∧ F64.le x .nan = false ∧ F64.eq x .nan = false ∧
    F64.gt x .nan = false ∧ F64.ge x .nan = false := by
  cases x <;> simp [F64.lt, F64.le, F64.eq, F64.gt, F64.ge]

theorem not_nan_of_le (x y : F64) (h : F64.le x y = true) : x.isNaN = false ∧ y.isNaN = false := by
  rw [le_iff] at h; rw [isNaN_eq_false_iff, isNaN_eq_false_iff]; omega

theorem le_of_eq (x y : F64) (e : F64.eq x y = true) : F64.le x y = true := by simp [le_eq_lt_or_eq, e]
theorem le_of_lt (x y : F64) (e : F64.lt x y = true) : F64.le x y = true := by simp [le_eq_lt_or_eq, e]

theorem gt_eq_lt (x y : F64) : F64.gt x y = F64.lt y x := rfl
theorem ge_eq_le (x y : F64) : F64.ge x y = F64.le y x := rfl

theorem le_eq_not_lt (x y : F64) (hx : x.isNaN = false) (hy : y.isNaN = false) : F64.le x y = !F64.lt y x := by
  rw [isNaN_eq_false_iff] at hx hy
  rw [Bool.eq_iff_iff, Bool.not_eq_true', ← Bool.not_eq_true, le_iff, lt_iff]; omega

/-- with a NaN operand `<=` and `!(y < x)` differ: this is why `<=` is not coded as the negation -/
example : F64.le .nan F64.zero = false ∧ (!F64.lt F64.zero .nan) = true := by decide

theorem le_refl_iff (x : F64) : F64.le x x = !x.isNaN := by
  rw [Bool.eq_iff_iff, Bool.not_eq_true', le_iff, isNaN_eq_false_iff]; omega

/-- `−∞` is the least and `+∞` the greatest of the non-NaN doubles -/
theorem eq_neginf_of_not_lt (n : F64) (hn : n.isNaN = false) (h : F64.lt (.inf true) n = false) : n = .inf true := by
  rcases n with _ | ⟨_ | _⟩ | _ <;> simp_all [F64.lt, F64.isNaN]

theorem eq_posinf_of_not_lt (n : F64) (hn : n.isNaN = false) (h : F64.lt n (.inf false) = false) : n = .inf false := by
  rcases n with _ | ⟨_ | _⟩ | _ <;> simp_all [F64.lt, F64.isNaN]

theorem zeros (a b : Bool) : F64.eq (.fin a 0) (.fin b 0) = true ∧ F64.lt (.fin a 0) (.fin b 0) = false ∧
    F64.le (.fin a 0) (.fin b 0) = true := by
  cases a <;> cases b <;> decide

/-! ## strings: `strLt` is the strict lexicographic order by code point -/

theorem strLt_iff_lt : ∀ a b : Str, strLt a b = true ↔ a < b
  | [], [] => by simp [strLt]
  | [], _ :: _ => by simp [strLt]
  | _ :: _, [] => by simp [strLt]
  | a :: as, b :: bs => by
      have hne : ¬ b.val < a.val → ¬ a.val < b.val → a = b := fun h1 h2 =>
        Char.ext (UInt32.le_antisymm (UInt32.not_lt.mp h1) (UInt32.not_lt.mp h2))
      rw [strLt, List.cons_lt_cons_iff, Char.lt_def, ← strLt_iff_lt as bs]
      by_cases hab : a.val < b.val
      · simp [hab]
      · by_cases hba : b.val < a.val
        · have : a ≠ b := by rintro rfl; exact hab hba
          simp [hab, hba, this]
        · simp [hne hba hab]

theorem strLt_irrefl : ∀ a : Str, strLt a a = false := by
  intro a
  rw [← Bool.not_eq_true, strLt_iff_lt]; exact List.lt_irrefl a

theorem strLt_asymm : ∀ a b : Str, strLt a b = true → strLt b a = false := by
  intro a b h
  rw [← Bool.not_eq_true, strLt_iff_lt]; exact List.lt_asymm ((strLt_iff_lt a b).mp h)

theorem strLt_trans : ∀ a b c : Str, strLt a b = true → strLt b c = true → strLt a c = true := by
  intro a b c h1 h2
  rw [strLt_iff_lt] at *; exact List.lt_trans h1 h2

theorem strLt_ne (a b : Str) (h : strLt a b = true) : a ≠ b := by
  intro e; subst e; simp [strLt_irrefl] at h

theorem strLe_iff (a b : Str) : strLe a b = true ↔ (strLt a b = true ∨ a = b) := by
  rw [strLe, Bool.not_eq_true', ← Bool.not_eq_true, strLt_iff_lt, strLt_iff_lt, List.not_lt, List.le_iff_lt_or_eq]

theorem strLt_total (a b : Str) : strLt a b = true ∨ a = b ∨ strLt b a = true := by
  cases h : strLt b a with
  | true => exact .inr (.inr rfl)
  | false => exact ((strLe_iff a b).mp (by simp [strLe, h])).elim .inl (.inr ∘ .inl)

theorem strLe_refl (a : Str) : strLe a a = true := by simp [strLe, strLt_irrefl]

end JL.Lemmas.F64Order
