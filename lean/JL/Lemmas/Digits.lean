import JL.Basic
/-!
# The decimal text of a natural number (`natToStr = Nat.toDigits 10`)

`isDigit` and `digitsVal` are core's `Char.isDigit` and `Nat.ofDigitChars 10`; what core proves of
`Nat.toDigits` is carried over through these two equations. Then `digitsVal` on runs of zeros and on single digits,
as the layouts of `format` produce them.
-/
namespace JL

theorem isDigit_eq (c : Char) : isDigit c = c.isDigit := rfl

theorem digitsVal_eq_ofDigitChars (cs : List Char) : digitsVal cs = Nat.ofDigitChars 10 cs 0 := by
  simp only [digitsVal, digitVal, Nat.ofDigitChars, Nat.mul_comm]

theorem natToStr_ne_nil (n : Nat) : natToStr n ≠ [] := Nat.toDigits_ne_nil

theorem natToStr_length_pos (n : Nat) : 0 < (natToStr n).length := Nat.length_toDigits_pos

theorem lt_pow_length (n : Nat) : n < 10 ^ (natToStr n).length :=
  (Nat.length_toDigits_le_iff (b := 10) (n := n) (by decide) (natToStr_length_pos n)).mp (Nat.le_refl _)

theorem natToStr_digits (n : Nat) : ∀ c ∈ natToStr n, isDigit c = true :=
  fun c hc => (isDigit_eq c).trans (Nat.isDigit_of_mem_toDigits (by decide) (by decide) hc)

theorem digitsVal_natToStr (n : Nat) : digitsVal (natToStr n) = n := by
  rw [digitsVal_eq_ofDigitChars]; exact Nat.ofDigitChars_ten_toDigits

theorem digitsVal_append (a b : List Char) : digitsVal (a ++ b) = digitsVal a * 10 ^ b.length + digitsVal b := by
  rw [digitsVal_eq_ofDigitChars, Nat.ofDigitChars_append, Nat.ofDigitChars_eq_ofDigitChars_zero,
    ← digitsVal_eq_ofDigitChars, ← digitsVal_eq_ofDigitChars, Nat.mul_comm]

theorem digitsVal_single (c : Char) : digitsVal [c] = digitVal c := by simp [digitsVal]

theorem digitsVal_zeros (j : Nat) : digitsVal (List.replicate j '0') = 0 := by
  induction j with
  | zero => rfl
  | succ j ih =>
    rw [List.replicate_succ']
    rw [digitsVal_append, ih]
    decide

theorem zeros_digits (j : Nat) : ∀ x ∈ List.replicate j '0', isDigit x = true := by
  intro x hx
  rw [(List.mem_replicate.mp hx).2]; decide

theorem digitsVal_zeros_append (j : Nat) (s : Str) : digitsVal (List.replicate j '0' ++ s) = digitsVal s := by
  rw [digitsVal_append, digitsVal_zeros]; simp

end JL

namespace JL.Lemmas.RoundTrip
open JL

theorem digitsVal_nil : digitsVal [] = 0 := rfl

/-- the text of `n` has no more digits than `n` needs (no leading zero): else it would be shorter than it is; the other half is `lt_pow_length` -/
theorem pow_length_le (n : Nat) (hn : n ≠ 0) : 10 ^ ((natToStr n).length - 1) ≤ n := by
  refine Nat.le_of_not_lt fun hlt => ?_
  by_cases h1 : (natToStr n).length - 1 = 0
  · rw [h1] at hlt; omega
  · have := (Nat.length_toDigits_le_iff (b := 10) (n := n) (by decide) (Nat.pos_of_ne_zero h1)).mpr hlt
    exact absurd this (Nat.not_le.mpr (Nat.sub_lt (natToStr_length_pos n) Nat.one_pos))

theorem digitsVal_take_drop (s : Str) (i : Nat) :
    digitsVal (s.take i ++ s.drop i) = digitsVal s := by rw [List.take_append_drop]

end JL.Lemmas.RoundTrip
