import JL.Lemmas.Run
import JL.Lemmas.Exec
import JL.Spec.C14
/-! Helper lemmas for C14: the early-exit folds of `array.rs` (`all`, `some`) against the bounded quantifiers, and as `List.foldlM`s. -/
namespace JL.Lemmas.C14
open JL Json JL.Props.C14

theorem lookup_quant {k : Str} (hk : k = "all".toList ∨ k = "some".toList ∨ k = "none".toList) :
    lookupOp k = some (.lazy, .exactly 2) := by
  rcases hk with rfl | rfl | rfl
  · exact lookup_all
  · exact lookup_some
  · exact lookup_none

theorem bind_mk_pure {α} (x : M α) : (x >>= fun a => (⟨[], .ok a⟩ : M α)) = x := M.bind_mk_pure x

/-! ## the folds -/

/-- once the state differs from the initial one the fold over data evaluates nothing more -/
theorem quantData_decided (isAll : Bool) (p : Json → M Json) (xs : List Json) :
    quantData isAll p xs (!isAll) = pure (!isAll) := by
  induction xs with
  | nil => rfl
  | cons x xs ih => rw [quantData, if_pos (by cases isAll <;> rfl), ih]

theorem quantData_step (isAll : Bool) (p : Json → M Json) (x : Json) (xs : List Json) :
    quantData isAll p (x :: xs) isAll =
      p x >>= fun r => if truthy r = isAll then quantData isAll p xs isAll else pure (!isAll) := by
  rw [quantData]
  simp only [bne_self_eq_false, Bool.false_eq_true, if_false]
  congr 1; funext r
  by_cases h : truthy r = isAll
  · simp [h]
  · simp only [h, if_false]
    rw [Bool.eq_not_of_ne h]; exact quantData_decided isAll p xs

/-- `allSpec` (`isAll = true`) and `someSpec` (`false`), so that the folds — which carry `isAll` — meet both at once -/
def quantSpec (isAll : Bool) : (Json → M Json) → List Json → M Bool := if isAll then allSpec else someSpec

theorem quantSpec_nil (isAll : Bool) (p : Json → M Json) : quantSpec isAll p [] = pure isAll := by cases isAll <;> rfl

/-- first decider: an answer whose truthiness differs from `isAll` ends the run -/
theorem quantSpec_cons (isAll : Bool) (p : Json → M Json) (x : Json) (xs : List Json) :
    quantSpec isAll p (x :: xs) = p x >>= fun r => if truthy r = isAll then quantSpec isAll p xs else pure (!isAll) := by
  cases isAll <;> exact M.bind_congr fun r _ => by cases truthy r <;> rfl

theorem quantData_spec (isAll : Bool) (p : Json → M Json) : ∀ xs, quantData isAll p xs isAll = quantSpec isAll p xs
  | [] => (quantSpec_nil isAll p).symm
  | x :: xs => by rw [quantData_step, quantSpec_cons]; simp only [quantData_spec isAll p xs]

theorem quantSpec_out_of_ok (isAll : Bool) {P : Json → M Json} {g : Json → Json} :
    ∀ xs : List Json, (∀ x ∈ xs, (P x).out = .ok (g x)) →
      (quantSpec isAll P xs).out = .ok (if isAll then xs.all fun x => truthy (g x) else xs.any fun x => truthy (g x))
  | [], _ => by rw [quantSpec_nil]; cases isAll <;> rfl
  | x :: xs, h => by
      have ih := quantSpec_out_of_ok isAll xs fun y hy => h y (List.mem_cons_of_mem _ hy)
      rw [quantSpec_cons, M.bind_out_of_ok (h x List.mem_cons_self)]
      cases isAll <;> cases ht : truthy (g x) <;> simp [ht, ih]

theorem evElem_eq_apply (d e : Json) : evElem d e = apply e d := rfl

/-- the fold over element expressions is the fold over data whose closure first evaluates the element on the outer data -/
theorem runQuantLit_eq_quantData (isAll : Bool) (p : Json → M Json) (d : Json) :
    ∀ xs res, runQuantLit isAll xs p d res = quantData isAll (fun e => evElem d e >>= p) xs res
  | [], _ => by rw [runQuantLit, quantData]
  | x :: xs, res => by
    rw [runQuantLit, quantData, evElem_eq_apply, apply_bind]
    simp only [runQuantLit_eq_quantData isAll p d xs]
    cases check x <;> simp

theorem runQuantLit_decided (isAll : Bool) (p : Json → M Json) (d : Json) (xs : List Json) :
    runQuantLit isAll xs p d (!isAll) = pure (!isAll) := by
  rw [runQuantLit_eq_quantData, quantData_decided]

theorem runQuantLit_step (isAll : Bool) (p : Json → M Json) (d x : Json) (xs : List Json) :
    runQuantLit isAll (x :: xs) p d isAll =
      evElem d x >>= fun v => p v >>= fun r =>
        if truthy r = isAll then runQuantLit isAll xs p d isAll else pure (!isAll) := by
  rw [runQuantLit_eq_quantData, quantData_step, M.bind_assoc]
  simp only [runQuantLit_eq_quantData]

theorem runQuantLit_spec (isAll : Bool) (p : Json → M Json) (d : Json) (xs : List Json) :
    runQuantLit isAll xs p d isAll = quantSpec isAll (fun e => do let v ← evElem d e; p v) xs := by
  rw [runQuantLit_eq_quantData, quantData_spec]

/-- as left folds (`hg`: one step, however spelled): over data items … -/
theorem quant_foldlM (isAll : Bool) (p : Json → M Json) (g : Bool → Json → M Bool)
    (hg : ∀ res i, g res i = if (res != isAll) = true then pure res else p i >>= fun r => pure (truthy r)) :
    ∀ (xs : List Json) (res : Bool), xs.foldlM g res = quantData isAll p xs res
  | [], res => rfl
  | x :: xs, res => by
    rw [List.foldlM_cons, hg, quantData]
    split
    · rw [M.pure_bind, quant_foldlM isAll p g hg xs]
    · rw [M.bind_assoc]
      congr 1; funext r
      rw [M.pure_bind, quant_foldlM isAll p g hg xs]

/-- … and over the element expressions of a literal array -/
theorem quantLit_foldlM (isAll : Bool) (p : Json → M Json) (d : Json) (g : Bool → Json → M Bool)
    (hg : ∀ res i, g res i = if (res != isAll) = true then pure res else
      if check i then run i d >>= fun iv => p iv >>= fun r => pure (truthy r) else M.err)
    (xs : List Json) (res : Bool) : xs.foldlM g res = runQuantLit isAll xs p d res := by
  rw [runQuantLit_eq_quantData]
  exact quant_foldlM isAll _ g (fun res i => by rw [hg, M.bind_assoc]; exact congrArg _ (apply_bind i d _).symm) xs res

/-! ## collections that are values -/

theorem quantItems_eq_items (c : Json) : quantItems c = items c := by cases c <;> rfl

theorem quantValue_spec (isAll : Bool) (coll p : Json) :
    quantValue isAll coll (check p) (fun x => run p x) = overValue (quantSpec isAll) coll p := by
  unfold quantValue overValue
  rw [quantItems_eq_items]
  cases h : items coll with
  | none => rfl
  | some its =>
    cases its with
    | nil => rfl
    | cons x xs => cases hp : check p <;> simp [quantData_spec]

/-! ## the branch of `run` -/

/-- what the `all`/`some`/`none` branch of `run` computes before `none` negates it -/
def quantBody (isAll : Bool) (c p d : Json) : M Json :=
  match c with
  | .arr xs =>
      if xs.isEmpty then pure (.bool false)
      else if !check p then M.err
      else do
        let b ← runQuantLit isAll xs (fun x => run p x) d isAll
        pure (.bool b)
  | other =>
      if isObj other then
        if !check other then M.err else do
        let cv ← run other d
        quantValue isAll cv (check p) (fun x => run p x)
      else quantValue isAll other (check p) (fun x => run p x)

theorem quantBody_spec (isAll : Bool) (c p d : Json) : quantBody isAll c p d = quantSem (quantSpec isAll) c p d := by
  cases c with
  | arr xs =>
    cases xs with
    | nil => rfl
    | cons x xs =>
      simp only [quantBody, quantSem, List.isEmpty_cons, Bool.false_eq_true, if_false, runQuantLit_spec]
      cases check p <;> simp
  | obj kvs =>
    simp only [quantBody, quantSem, isObj, if_true, evElem_eq_apply, apply_bind, quantValue_spec]
    cases check (.obj kvs) <;> simp
  | _ => simp only [quantBody, quantSem, isObj, Bool.false_eq_true, if_false, quantValue_spec]

theorem quantBody_all (c p d : Json) : quantBody true c p d = quantSem allSpec c p d := quantBody_spec true c p d
theorem quantBody_some (c p d : Json) : quantBody false c p d = quantSem someSpec c p d := quantBody_spec false c p d

/- The key is a variable in these equations (callers pass `rfl`), see `Lemmas.C13.run_map`; `quantBody` is the branch
as `run` writes it (what the translated `array::all` is compared with), `quantBody_all`/`_some` its specification. -/

theorem run_all {k : Str} (hk : k = "all".toList) (v d : Json) :
    run (.obj [(k, v)]) d =
      match operands v with
      | c :: p :: _ => quantBody true c p d
      | _ => M.panic := by
  unfold run
  lazy_key hk with lookup_all
  rcases v with _ | _ | _ | _ | ⟨_ | ⟨c, _ | ⟨p, rest⟩⟩⟩ | _ <;> rfl

theorem run_some {k : Str} (hk : k = "some".toList) (v d : Json) :
    run (.obj [(k, v)]) d =
      match operands v with
      | c :: p :: _ => quantBody false c p d
      | _ => M.panic := by
  unfold run
  lazy_key hk with lookup_some
  rcases v with _ | _ | _ | _ | ⟨_ | ⟨c, _ | ⟨p, rest⟩⟩⟩ | _ <;> rfl

theorem run_none {k : Str} (hk : k = "none".toList) (v d : Json) :
    run (.obj [(k, v)]) d =
      match operands v with
      | c :: p :: _ => quantBody false c p d >>= negate
      | _ => M.panic := by
  unfold run
  lazy_key hk with lookup_none
  rcases v with _ | _ | _ | _ | ⟨_ | ⟨c, _ | ⟨p, rest⟩⟩⟩ | _ <;> rfl

theorem check_quant {k : Str} (hk : k = "all".toList ∨ k = "some".toList ∨ k = "none".toList) (xs : List Json) :
    check (.obj [(k, .arr xs)]) = (xs.length == 2) := by
  rw [check_op (lookup_quant hk)]
  simp [Arity.admits, Arity.isValidLen]

theorem check_quant_unary (k : Str) (hk : k = "all".toList ∨ k = "some".toList ∨ k = "none".toList) (x : Json)
    (hx : ∀ xs, x ≠ .arr xs) : check (.obj [(k, x)]) = false := by
  rw [check_op (lookup_quant hk), Arity.admits_of_not_arr _ hx]; rfl

/-! ## results are booleans; `none` -/

/-- every value the computation can produce is a boolean -/
def BoolOut (x : M Json) : Prop := M.Post False (fun _ => True) (fun v => ∃ b, v = .bool b) x

theorem boolOut_bool (r : M Bool) : BoolOut (r >>= fun b => pure (.bool b)) :=
  M.post_bind (P := fun _ => True) M.post_trivial fun b _ => M.post_pure ⟨b, rfl⟩

theorem boolOut_overValue (q) (coll p : Json) : BoolOut (overValue q coll p) := by
  unfold overValue
  split
  · exact M.post_err
  · exact M.post_pure ⟨_, rfl⟩
  · exact M.post_ite (fun _ => boolOut_bool _) fun _ => M.post_err

theorem boolOut_quantSem (q) (c p d : Json) : BoolOut (quantSem q c p d) := by
  unfold quantSem
  split
  · exact M.post_pure ⟨_, rfl⟩
  · exact M.post_ite (fun _ => boolOut_bool _) fun _ => M.post_err
  · exact M.post_bind (P := fun _ => True) M.post_trivial
      fun cv _ => boolOut_overValue q cv p
  · exact boolOut_overValue q _ p

/-- on booleans `none`'s read-out is plain negation (its error arm is dead code) -/
theorem negate_of_boolOut (x : M Json) (hx : BoolOut x) :
    (x >>= negate) = (x >>= fun v => pure (.bool (!truthy v))) :=
  M.bind_congr fun v hv => by obtain ⟨b, rfl⟩ := hx.2.1 v hv; rfl

/-! ## duality -/

/-- De Morgan for both quantifiers at once, errors and log lines included -/
theorem quantSpec_dual (isAll : Bool) (p : Json → M Json) :
    ∀ xs, quantSpec isAll p xs = quantSpec (!isAll) (notP p) xs >>= fun b => pure (!b)
  | [] => by simp [quantSpec_nil]
  | x :: xs => by
      rw [quantSpec_cons, quantSpec_cons, notP, M.bind_assoc, M.bind_assoc]
      refine M.bind_congr fun r _ => ?_
      rw [M.pure_bind, quantSpec_dual isAll p xs]
      cases truthy r <;> cases isAll <;> simp [truthy]

theorem allSpec_eq_not_some (p : Json → M Json) (xs : List Json) :
    allSpec p xs = someSpec (notP p) xs >>= fun b => pure (!b) := quantSpec_dual true p xs

theorem someSpec_eq_not_all (p : Json → M Json) (xs : List Json) :
    someSpec p xs = allSpec (notP p) xs >>= fun b => pure (!b) := quantSpec_dual false p xs

theorem check_notRule (p : Json) : check (notRule p) = check p := by
  rw [notRule, check_op lookup_not]
  simp [Arity.admits, Arity.isValidLen, operands, checkList]

theorem run_notRule (p x : Json) : run (notRule p) x = notP (fun e => run p e) x := by
  rw [notRule, run_eager lookup_not, operands_arr, runList_cons, runList_nil, M.bind_assoc]
  refine M.bind_congr fun v _ => ?_
  show (pure [v] >>= execEager "!".toList) = _
  rw [M.pure_bind, execEager_not]

/-- `all` against negated `some` over the same elements, for any way `P` of evaluating the predicate on an element and
any `P'` that computes its negation (elements that are data: `P = run p`; element expressions: `P = evElem d · >>= run p`) -/
theorem quant_duality {P P' : Json → M Json} (h : ∀ e, P' e = notP P e) (xs : List Json) :
    (allSpec P xs >>= fun b => pure (.bool b)) = (someSpec P' xs >>= fun b => pure (.bool b)) >>= negate := by
  rw [funext h, allSpec_eq_not_some, M.bind_assoc, M.bind_assoc]
  congr 1

theorem overValue_none (q) (coll p : Json) (h : items coll = none) : overValue q coll p = M.err := by
  unfold overValue; simp [h]

theorem overValue_empty (q) (coll p : Json) (h : items coll = some []) : overValue q coll p = pure (.bool false) := by
  unfold overValue; simp [h]

theorem overValue_duality (coll p : Json) (h : items coll ≠ some []) :
    overValue allSpec coll p = overValue someSpec coll (notRule p) >>= negate := by
  unfold overValue
  rcases hi : items coll with _ | _ | ⟨x, xs⟩
  · rfl
  · exact absurd hi h
  · simp only [check_notRule]
    cases check p
    · rfl
    · exact quant_duality (run_notRule p) _

theorem quantSem_arr_cons (q) (z : Json) (zs : List Json) (p d : Json) :
    quantSem q (.arr (z :: zs)) p d =
      if check p then (q (fun e => do let v ← evElem d e; run p v) (z :: zs)) >>= fun b => pure (.bool b) else M.err := rfl

theorem quantSem_arr_ne (q) (zs : List Json) (hz : zs ≠ []) (p d : Json) :
    quantSem q (.arr zs) p d =
      if check p then (q (fun e => do let v ← evElem d e; run p v) zs) >>= fun b => pure (.bool b) else M.err := by
  cases zs with
  | nil => exact absurd rfl hz
  | cons z zs => rfl

theorem quantSem_duality (c p d : Json) (h : ¬ CollEmpty c d) :
    quantSem allSpec c p d = quantSem someSpec c (notRule p) d >>= negate := by
  cases c with
  | arr zs =>
    cases zs with
    | nil => exact absurd rfl h
    | cons z zs =>
      simp only [quantSem_arr_cons, check_notRule]
      cases check p
      · rfl
      · exact quant_duality (fun e => by simp only [notP, M.bind_assoc, run_notRule]) _
  | obj kvs =>
    simp only [quantSem, M.bind_assoc]
    exact M.bind_congr fun cv hcv => overValue_duality cv p fun hi => h ⟨_, cv, M.ext rfl hcv, hi⟩
  | null => exact absurd rfl h
  | bool b => exact overValue_duality (.bool b) p (by simp [items])
  | num n => exact overValue_duality (.num n) p (by simp [items])
  | str s => exact overValue_duality _ p h

theorem quantSem_empty (c d : Json) (h : CollEmpty c d) :
    ∃ l, ∀ q p, quantSem q c p d = ⟨l, .ok (.bool false)⟩ := by
  cases c with
  | arr zs => cases h; exact ⟨[], fun _ _ => rfl⟩
  | obj kvs =>
    obtain ⟨l, cv, hcv, hi⟩ := h
    refine ⟨l, fun q p => ?_⟩
    simp only [quantSem, hcv, M.bind_ok, overValue_empty _ _ _ hi]
    simp
  | null => exact ⟨[], fun _ _ => rfl⟩
  | bool b => simp [CollEmpty, items] at h
  | num n => simp [CollEmpty, items] at h
  | str s => exact ⟨[], fun q p => by simp only [quantSem]; rw [overValue_empty _ _ _ h]; rfl⟩

/-! ## short circuit -/

/-- an answer whose truthiness differs from `isAll` decides, whatever comes behind -/
theorem quantSpec_decided (isAll : Bool) (p : Json → M Json) (x : Json) (ys : List Json) (l : List Json) (r : Json)
    (hx : p x = ⟨l, .ok r⟩) (hr : truthy r = !isAll) : quantSpec isAll p (x :: ys) = ⟨l, .ok (!isAll)⟩ := by
  rw [quantSpec_cons, hx, M.bind_ok, if_neg (by rw [hr]; cases isAll <;> decide)]
  simp

theorem quantSpec_failed (isAll : Bool) (p : Json → M Json) (x : Json) (ys ys' : List Json)
    (hx : ∀ v, (p x).out ≠ .ok v) : quantSpec isAll p (x :: ys) = quantSpec isAll p (x :: ys') := by
  rw [quantSpec_cons, quantSpec_cons]; exact M.bind_congr fun v hv => absurd hv (hx v)

theorem quantSpec_prefix (isAll : Bool) (p : Json → M Json) (r r' : List Json)
    (h : quantSpec isAll p r = quantSpec isAll p r') : ∀ pre, quantSpec isAll p (pre ++ r) = quantSpec isAll p (pre ++ r')
  | [] => h
  | x :: pre => by simp only [List.cons_append, quantSpec_cons, quantSpec_prefix isAll p r r' h pre]

/-- when every element in front answers (no failure) truthy, `all` reaches the element behind them -/
theorem allSpec_append_truthy (p : Json → M Json) (r : List Json) :
    ∀ pre, (∀ x ∈ pre, ∃ l v, p x = ⟨l, .ok v⟩ ∧ truthy v = true) →
      ∃ l, allSpec p (pre ++ r) = ⟨l ++ (allSpec p r).logs, (allSpec p r).out⟩
  | [], _ => ⟨[], by simp⟩
  | x :: pre, h => by
      obtain ⟨l, v, hx, hv⟩ := h x (by simp)
      obtain ⟨l', ih⟩ := allSpec_append_truthy p r pre (fun y hy => h y (by simp [hy]))
      exact ⟨l ++ l', by simp [allSpec, hx, hv, ih]⟩
