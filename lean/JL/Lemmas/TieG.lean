import JL.Rs
import JL.Lemmas.Monad
import JL.Lemmas.TieD
/-!
# Helper lemmas for the tie theorems about folds whose closure re-binds captured variables (`Rs.foldMS`)

* `foldMS_model`: when every step from a good accumulator either yields a good value and a new state, or fails, and a failed
  accumulator is handed on, the fold followed by "`?` on the outcome, then return a function of value and state" is any model
  recursion that takes the same decisions (`missingFold`, `missingSomeFold`);
* the ties use it with the step hypothesis as `StepCases`, a proposition that `simp` decides once the step has been computed:
  `foldMS_model_cases` (`op_missing`), and `foldMS_pair_cases` (`op_missing_some`) for a model recursion that returns value and state;
* `foldMS_tryS`: for ANY (logging, failing, panicking) step that starts with `let a = acc?;` the fold is a recursion over the
  *value* of the accumulator (`foldS`), entered through `?` on the initial accumulator. More general than the two ties need.
-/
namespace JL.Lemmas.TieG
open JL JL.Lemmas.TieD

@[simp] theorem foldMS_nil {α β σ} (acc : M β) (s : σ) (f : M β → σ → α → M β × σ) :
    Rs.foldMS [] acc s f = (acc, s) := rfl
theorem foldMS_cons {α β σ} (x : α) (xs : List α) (acc : M β) (s : σ) (f : M β → σ → α → M β × σ) :
    Rs.foldMS (x :: xs) acc s f =
      (⟨acc.logs ++ (Rs.foldMS xs (f (Rs.settled acc) s x).1 (f (Rs.settled acc) s x).2 f).1.logs,
        (Rs.foldMS xs (f (Rs.settled acc) s x).1 (f (Rs.settled acc) s x).2 f).1.out⟩,
       (Rs.foldMS xs (f (Rs.settled acc) s x).1 (f (Rs.settled acc) s x).2 f).2) := rfl

/-! `?` inside a closure with threaded state (`Rs.tryS`), on an `M` value and on an `Option`, by cases -/

theorem tryS_ok {α β σ} (l : List Json) (a : α) (s : σ) (k : α → M β × σ) :
    Rs.tryS (⟨l, .ok a⟩ : M α) s k = (⟨l ++ (k a).1.logs, (k a).1.out⟩, (k a).2) := rfl
theorem tryS_err {α β σ} (l : List Json) (s : σ) (k : α → M β × σ) :
    Rs.tryS (⟨l, .err⟩ : M α) s k = (⟨l, .err⟩, s) := rfl
theorem tryS_panic {α β σ} (l : List Json) (s : σ) (k : α → M β × σ) :
    Rs.tryS (⟨l, .panic⟩ : M α) s k = (⟨l, .panic⟩, s) := rfl
theorem tryS_pure {α β σ} (a : α) (s : σ) (k : α → M β × σ) :
    Rs.tryS (pure a : M α) s k = k a := rfl
theorem tryS_some {α β σ} (a : α) (s : σ) (k : α → M β × σ) : Rs.tryS (some a) s k = k a := rfl
theorem tryS_none {α β σ} (s : σ) (k : α → M β × σ) : Rs.tryS (none : Option α) s k = (M.err, s) := rfl

/-! `?` on a `Result` in logging code is `>>=`; `Option::ok_or` on the two constructors -/

theorem try_M {α β} (x : M α) (k : α → M β) : Rs.try_ x k = x >>= k := rfl
theorem ok_or_some {α} (a : α) : Rs.ok_or (some a) = pure a := rfl
theorem ok_or_none {α} : Rs.ok_or (none : Option α) = M.err := rfl

/-- `KeyType::try_from(&Value)` is the model's `Data.keyOf` -/
theorem try_into_key (x : Json) : Rs.try_into x = Data.keyOf x := rfl

/-- the fold over accumulator *values*: a failing step ends it and keeps the state the step left -/
def foldS {α β σ : Type} (g : β → σ → α → M β × σ) : List α → β → σ → M β × σ
  | [], b, s => (pure b, s)
  | x :: xs, b, s => Rs.tryS (g b s x).1 (g b s x).2 (fun b' => foldS g xs b' (g b s x).2)

@[simp] theorem foldS_nil {α β σ} (g : β → σ → α → M β × σ) (b : β) (s : σ) : foldS g [] b s = (pure b, s) := rfl
theorem foldS_cons {α β σ} (g : β → σ → α → M β × σ) (x : α) (xs : List α) (b : β) (s : σ) :
    foldS g (x :: xs) b s = Rs.tryS (g b s x).1 (g b s x).2 (fun b' => foldS g xs b' (g b s x).2) := rfl

/-- a `fold` whose closure starts with `let a = acc?;` and re-binds captured variables: from any accumulator -/
theorem foldMS_tryS {α β σ : Type} (f : M β → σ → α → M β × σ) (g : β → σ → α → M β × σ)
    (hf : ∀ (acc : M β) (s : σ) (x : α), f acc s x = Rs.tryS acc s (fun a => g a s x)) :
    ∀ (xs : List α) (acc : M β) (s : σ), Rs.foldMS xs acc s f = Rs.tryS acc s (fun a => foldS g xs a s)
  | [], acc, s => by
      cases acc with | mk l o =>
      cases o <;> simp [tryS_ok, tryS_err, tryS_panic]
  | x :: xs, acc, s => by
      rw [foldMS_cons, foldMS_tryS f g hf xs, hf]
      cases acc with | mk l o =>
      cases o with
      | ok a =>
          simp only [settled_mk, tryS_ok, foldS_cons, List.nil_append]
      | err => simp [tryS_err]
      | panic => simp [tryS_panic]

/-- a failed accumulator that every step hands on stays as it is -/
theorem foldMS_err {α β σ : Type} (f : M β → σ → α → M β × σ)
    (herr : ∀ (s : σ) (x : α), f ⟨[], .err⟩ s x = (⟨[], .err⟩, s)) :
    ∀ (xs : List α) (l : List Json) (s : σ), Rs.foldMS xs ⟨l, .err⟩ s f = (⟨l, .err⟩, s)
  | [], _, _ => rfl
  | x :: xs, l, s => by
      rw [foldMS_cons, settled_mk, herr, foldMS_err f herr xs]
      simp

/-- A fold whose steps do not log: from a good accumulator each step either gives a good accumulator and a state, and the model
recursion `Fm` goes on with them, or fails, and so does `Fm`; a failed accumulator is handed on. Then `?` on the fold's outcome
followed by any continuation `k value state` is `Fm`, when `Fm` ends with `k`. -/
theorem foldMS_model {α β σ δ : Type} (f : M β → σ → α → M β × σ) (Fm : List α → β → σ → M δ) (k : β → σ → M δ)
    (hnil : ∀ b s, Fm [] b s = k b s)
    (herr : ∀ (s : σ) (x : α), f ⟨[], .err⟩ s x = (⟨[], .err⟩, s))
    (hstep : ∀ (x : α) (xs : List α) (b : β) (s : σ),
      (∃ b' s', f ⟨[], .ok b⟩ s x = (⟨[], .ok b'⟩, s') ∧ Fm (x :: xs) b s = Fm xs b' s') ∨
      (∃ s', f ⟨[], .ok b⟩ s x = (⟨[], .err⟩, s') ∧ Fm (x :: xs) b s = ⟨[], .err⟩)) :
    ∀ (xs : List α) (b : β) (s : σ),
      ((Rs.foldMS xs ⟨[], .ok b⟩ s f).1 >>= fun b' => k b' (Rs.foldMS xs ⟨[], .ok b⟩ s f).2) = Fm xs b s
  | [], b, s => by simp [hnil]
  | x :: xs, b, s => by
      rw [foldMS_cons, settled_mk]
      rcases hstep x xs b s with ⟨b', s', h1, h2⟩ | ⟨s', h1, h2⟩
      · rw [h1, h2, ← foldMS_model f Fm k hnil herr hstep xs b' s']
        simp
      · rw [h1, h2, foldMS_err f herr xs]
        simp

/-- what one step from a good accumulator does, as a proposition by cases on its (computed) result: a good value and a state,
a plain error, or anything else (which a tie to a model recursion excludes) -/
def StepCases {β σ : Type} (p : M β × σ) (good : β → σ → Prop) (bad : Prop) : Prop :=
  match p with
  | (⟨[], .ok b'⟩, s') => good b' s'
  | (⟨[], .err⟩, _) => bad
  | _ => False

@[simp] theorem stepCases_ok {β σ} (b' : β) (s' : σ) (good : β → σ → Prop) (bad : Prop) :
    StepCases (⟨[], .ok b'⟩, s') good bad = good b' s' := rfl
@[simp] theorem stepCases_err {β σ} (s' : σ) (good : β → σ → Prop) (bad : Prop) :
    StepCases ((⟨[], .err⟩ : M β), s') good bad = bad := rfl
@[simp] theorem stepCases_pure {β σ} (b' : β) (s' : σ) (good : β → σ → Prop) (bad : Prop) :
    StepCases ((pure b' : M β), s') good bad = good b' s' := rfl
@[simp] theorem stepCases_merr {β σ} (s' : σ) (good : β → σ → Prop) (bad : Prop) :
    StepCases ((M.err : M β), s') good bad = bad := rfl

theorem stepCases_elim {β σ} {p : M β × σ} {good : β → σ → Prop} {bad : Prop} (h : StepCases p good bad) :
    (∃ b' s', p = (⟨[], .ok b'⟩, s') ∧ good b' s') ∨ (∃ s', p = (⟨[], .err⟩, s') ∧ bad) := by
  rcases p with ⟨⟨l, o⟩, s'⟩
  cases l with
  | nil =>
      cases o with
      | ok b' => exact Or.inl ⟨b', s', rfl, h⟩
      | err => exact Or.inr ⟨s', rfl, h⟩
      | panic => exact h.elim
  | cons _ _ => exact h.elim

/-- `foldMS_model` with the step hypothesis in the form that `simp` decides once the step has been computed:
`StepCases (f (pure b) s x) (fun b' s' => Fm (x :: xs) b s = Fm xs b' s') (Fm (x :: xs) b s = M.err)` -/
theorem foldMS_model_cases {α β σ δ : Type} (f : M β → σ → α → M β × σ) (Fm : List α → β → σ → M δ) (k : β → σ → M δ)
    (hnil : ∀ b s, Fm [] b s = k b s)
    (herr : ∀ (s : σ) (x : α), f ⟨[], .err⟩ s x = (⟨[], .err⟩, s))
    (hstep : ∀ (x : α) (xs : List α) (b : β) (s : σ),
      StepCases (f ⟨[], .ok b⟩ s x) (fun b' s' => Fm (x :: xs) b s = Fm xs b' s') (Fm (x :: xs) b s = ⟨[], .err⟩))
    (xs : List α) (b : β) (s : σ) :
      ((Rs.foldMS xs ⟨[], .ok b⟩ s f).1 >>= fun b' => k b' (Rs.foldMS xs ⟨[], .ok b⟩ s f).2) = Fm xs b s :=
  foldMS_model f Fm k hnil herr (fun x xs b s => stepCases_elim (hstep x xs b s)) xs b s

/-- The same when the model recursion returns the pair (value, state): the fold's result is a good value and the state, both the
model's, or a plain error (with some state), and then the model fails too. Use after `generalize hp : Rs.foldMS _ _ _ _ = p`. -/
theorem foldMS_pair_cases {α β σ : Type} {f : M β → σ → α → M β × σ} {Fm : List α → β → σ → M (β × σ)}
    (hnil : ∀ b s, Fm [] b s = pure (b, s))
    (herr : ∀ (s : σ) (x : α), f ⟨[], .err⟩ s x = (⟨[], .err⟩, s))
    (hstep : ∀ (x : α) (xs : List α) (b : β) (s : σ),
      StepCases (f ⟨[], .ok b⟩ s x) (fun b' s' => Fm (x :: xs) b s = Fm xs b' s') (Fm (x :: xs) b s = ⟨[], .err⟩)) :
    ∀ {xs : List α} {b : β} {s : σ} {p : M β × σ} (_ : Rs.foldMS xs ⟨[], .ok b⟩ s f = p),
      (∃ b' s', p = (⟨[], .ok b'⟩, s') ∧ Fm xs b s = ⟨[], .ok (b', s')⟩) ∨ (∃ s', p = (⟨[], .err⟩, s') ∧ Fm xs b s = ⟨[], .err⟩)
  | [], b, s, p, hp => Or.inl ⟨b, s, hp.symm, hnil b s⟩
  | x :: xs, b, s, p, hp => by
      rw [foldMS_cons, settled_mk] at hp
      rcases stepCases_elim (hstep x xs b s) with ⟨b', s', h1, h2⟩ | ⟨s', h1, h2⟩
      · rw [h1] at hp
        rcases foldMS_pair_cases hnil herr hstep (xs := xs) (b := b') (s := s') rfl with ⟨b2, s2, h3, h4⟩ | ⟨s2, h3, h4⟩
        · rw [h3] at hp
          exact Or.inl ⟨b2, s2, hp.symm, h2.trans h4⟩
        · rw [h3] at hp
          exact Or.inr ⟨s2, hp.symm, h2.trans h4⟩
      · rw [h1, foldMS_err f herr xs] at hp
        exact Or.inr ⟨s', hp.symm, h2⟩

end JL.Lemmas.TieG
