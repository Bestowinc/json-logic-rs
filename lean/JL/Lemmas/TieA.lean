import JL.Rs
/-!
# Helper lemmas for the tie theorems of `JL/Tie` (translated Rust code = model): the byte length of a string

`str::len` counts UTF-8 bytes, the model counts characters: at least one byte per character, exactly one on ASCII, so the byte
length is zero only for the empty string and is the character count of an ASCII string.
-/
namespace JL.Lemmas.TieA
open JL

/-- `str::len`: number of bytes of the UTF-8 encoding -/
def byteLen (s : Str) : Nat := (s.map Rs.utf8Len).sum

theorem len_str (s : Str) : Rs.len s = byteLen s := rfl

theorem utf8Len_pos (c : Char) : 1 ≤ Rs.utf8Len c := by
  unfold Rs.utf8Len; split <;> (try split) <;> (try split) <;> omega

theorem utf8Len_ascii (c : Char) (h : c.toNat < 128) : Rs.utf8Len c = 1 := by
  unfold Rs.utf8Len; simp [h]

@[simp] theorem byteLen_nil : byteLen [] = 0 := rfl
@[simp] theorem byteLen_cons (c : Char) (s : Str) : byteLen (c :: s) = Rs.utf8Len c + byteLen s := by
  simp [byteLen]
@[simp] theorem byteLen_append (s t : Str) : byteLen (s ++ t) = byteLen s + byteLen t := by
  simp [byteLen]

theorem length_le_byteLen : ∀ s : Str, s.length ≤ byteLen s
  | [] => by simp
  | c :: s => by
      have := length_le_byteLen s
      have := utf8Len_pos c
      simp; omega

theorem byteLen_ascii : ∀ s : Str, (∀ c ∈ s, c.toNat < 128) → byteLen s = s.length
  | [], _ => by simp
  | c :: s, h => by
      have := byteLen_ascii s (fun d hd => h d (List.mem_cons_of_mem _ hd))
      have := utf8Len_ascii c (h c List.mem_cons_self)
      simp; omega

theorem byteLen_eq_zero (s : Str) : byteLen s = 0 ↔ s = [] := by
  have := length_le_byteLen s
  constructor
  · intro h; exact List.length_eq_zero_iff.mp (by omega)
  · rintro rfl; rfl

end JL.Lemmas.TieA
