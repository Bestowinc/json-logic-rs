import JL.Lemmas.IEEE
/-!
# Round trips — every exact value inside the rounding interval of a double rounds to it

`F64.interval k` is the set of reals that round (nearest, ties to even) to `k` units; `roundUnits` applied to any
rational `num/den` inside it returns `fin _ k`. The closed/open boundary rule (closed iff the mantissa is even)
and the half-width gap below a power of two are both covered.

Between two consecutive grid points `roundK` is the half-even choice (`Lemmas.IEEE.roundK_of_bracket`); on either side of
`k` the rounding interval reaches exactly to the midpoint of the bracket between `k` and its neighbour on that side.
-/
namespace JL.Lemmas.RoundTrip
open JL JL.F64 JL.Spec.IEEE JL.Lemmas.IEEE

/-- `roundK` of a value at or above the canonical grid point `g = m·2^sh` and within half a spacing of it -/
theorem roundK_eq_lo {m sh num den : Nat} (hm : m < 2 ^ 53) (hc : sh = 0 ∨ 2 ^ 52 ≤ m) (hd : 0 < den)
    (h1 : m * 2 ^ sh * den ≤ num) (h2 : 2 * num ≤ 2 * (m * 2 ^ sh * den) + 2 ^ sh * den)
    (ht : m % 2 = 1 → 2 * num < 2 * (m * 2 ^ sh * den) + 2 ^ sh * den) : roundK num den = m * 2 ^ sh := by
  have hX : 0 < 2 ^ sh * den := Nat.mul_pos (Nat.two_pow_pos _) hd
  have e : (m + 1) * 2 ^ sh * den = m * 2 ^ sh * den + 2 ^ sh * den := by rw [Nat.succ_mul, Nat.add_mul]
  rw [roundK_of_bracket ⟨hm, hc, h1, by omega⟩, halfEven, if_neg]
  rw [e]
  rintro (h' | ⟨h', ho⟩)
  · omega
  · have := ht ho; omega

/-- `roundK` of a value below the grid point `(m+1)·2^sh` and within half a spacing of it; the lower neighbour `m·2^sh` is
canonical -/
theorem roundK_eq_hi {m sh num den : Nat} (hm : m < 2 ^ 53) (hc : sh = 0 ∨ 2 ^ 52 ≤ m)
    (h1 : num < (m + 1) * 2 ^ sh * den) (h2 : 2 * ((m + 1) * 2 ^ sh * den) - 2 ^ sh * den ≤ 2 * num)
    (ht : m % 2 = 0 → 2 * ((m + 1) * 2 ^ sh * den) - 2 ^ sh * den < 2 * num) :
    roundK num den = (m + 1) * 2 ^ sh := by
  have e : (m + 1) * 2 ^ sh * den = m * 2 ^ sh * den + 2 ^ sh * den := by rw [Nat.succ_mul, Nat.add_mul]
  rw [e] at h2 ht
  rw [roundK_of_bracket ⟨hm, hc, by omega, h1⟩, halfEven, if_pos]
  rw [e]
  by_cases ho : m % 2 = 0
  · have := ht ho; omega
  · omega

/-- `interval k` with its `let`s replaced by `bitLen` expressions and `>>>` by `/` -/
theorem interval_eq (k : Nat) :
    interval k =
      (2 * k - (if 53 < bitLen k ∧ k = 2 ^ (bitLen k - 1) then 2 ^ (bitLen k - 53) / 2 else 2 ^ (bitLen k - 53)),
       2 * k + 2 ^ (bitLen k - 53), (k / 2 ^ (bitLen k - 53)) % 2 == 0) := by
  unfold interval
  by_cases hL : bitLen k ≤ 53
  · have h0 : bitLen k - 53 = 0 := by omega
    have h1 : ¬ (53 < bitLen k) := by omega
    simp [hL, h0, h1]
  · have h1 : 53 < bitLen k := by omega
    simp [hL, h1, Nat.shiftRight_eq_div_pow]

/-- `num/den` (in units) lies in the rounding interval of `k` -/
def InIv (k num den : Nat) : Prop :=
  if (interval k).2.2 = true then (interval k).1 * den ≤ 2 * num ∧ 2 * num ≤ (interval k).2.1 * den
  else (interval k).1 * den < 2 * num ∧ 2 * num < (interval k).2.1 * den

instance (k num den : Nat) : Decidable (InIv k num den) := by unfold InIv; exact inferInstance

theorem inIv_iff (k num den : Nat) : InIv k num den ↔
    ((interval k).1 * den ≤ 2 * num ∧ 2 * num ≤ (interval k).2.1 * den) ∧
    ((interval k).2.2 = false → (interval k).1 * den < 2 * num ∧ 2 * num < (interval k).2.1 * den) := by
  unfold InIv
  cases (interval k).2.2
  · simp only [Bool.false_eq_true, if_false, true_implies]
    exact ⟨fun h => ⟨⟨Nat.le_of_lt h.1, Nat.le_of_lt h.2⟩, h⟩, fun h => h.2⟩
  · simp

theorem inIv_of_strict {k num den : Nat} (h1 : (interval k).1 * den < 2 * num)
    (h2 : 2 * num < (interval k).2.1 * den) : InIv k num den :=
  (inIv_iff k num den).mpr ⟨⟨Nat.le_of_lt h1, Nat.le_of_lt h2⟩, fun _ => ⟨h1, h2⟩⟩

/-- comparing two fractions over `den` is comparing the same fractions over `den'` -/
theorem frac_cmp {x y den x' y' den' : Nat} (hd : 0 < den) (hd' : 0 < den') (hx : x * den' = x' * den)
    (hy : y * den' = y' * den) : (x ≤ y ↔ x' ≤ y') ∧ (x < y ↔ x' < y') := by
  rw [← Nat.mul_le_mul_right_iff hd', ← Nat.mul_lt_mul_right hd', hx, hy, Nat.mul_le_mul_right_iff hd,
    Nat.mul_lt_mul_right hd]
  exact ⟨Iff.rfl, Iff.rfl⟩

/-- `InIv` depends only on the rational `num/den` -/
theorem inIv_congr (k : Nat) {num den num' den' : Nat} (hd : 0 < den) (hd' : 0 < den') (h : num * den' = num' * den) :
    InIv k num den ↔ InIv k num' den' := by
  have hn : 2 * num * den' = 2 * num' * den := by rw [Nat.mul_assoc, h, Nat.mul_assoc]
  have hb : ∀ a, a * den * den' = a * den' * den := fun a => Nat.mul_right_comm _ _ _
  unfold InIv
  rw [(frac_cmp hd hd' (hb _) hn).1, (frac_cmp hd hd' hn (hb _)).1, (frac_cmp hd hd' (hb _) hn).2,
    (frac_cmp hd hd' hn (hb _)).2]

/-- **every value inside the rounding interval of `k` rounds to `k`** -/
theorem roundK_inside (k num den : Nat) (hk0 : k ≠ 0) (hg : 2 ^ (bitLen k - 53) ∣ k) (hd : 0 < den)
    (h : InIv k num den) : roundK num den = k := by
  -- `k = m·2^sh` with `m = sig k`, `sh = bitLen k - 53`: the canonical form of `k`
  have hk : sig k * 2 ^ (bitLen k - 53) = k := by rw [sig, ulp_eq]; exact Nat.div_mul_cancel hg
  have hc : bitLen k - 53 = 0 ∨ 2 ^ 52 ≤ sig k :=
    Decidable.byCases (fun hL : bitLen k ≤ 53 => Or.inl (Nat.sub_eq_zero_of_le hL)) (fun hL => Or.inr (le_sig hL))
  -- unless `k` is a power of two above `2^53`, its lower neighbour `(sig k - 1)·2^sh` is canonical at the same shift
  have hc' : ¬ (53 < bitLen k ∧ k = 2 ^ (bitLen k - 1)) → ∃ n, sig k = n + 1 ∧ (bitLen k - 53 = 0 ∨ 2 ^ 52 ≤ n) := by
    intro hpow
    obtain ⟨n, hn⟩ : ∃ n, sig k = n + 1 :=
      ⟨sig k - 1, (Nat.sub_add_cancel (Nat.pos_of_ne_zero fun e => hk0 (by rw [← hk, e, Nat.zero_mul]))).symm⟩
    refine ⟨n, hn, ?_⟩
    by_cases hL : bitLen k ≤ 53
    · exact Or.inl (Nat.sub_eq_zero_of_le hL)
    · have h52 := le_sig hL
      have : sig k ≠ 2 ^ 52 := fun e =>
        hpow ⟨Nat.lt_of_not_le hL, hk.symm.trans (by rw [e, ← Nat.pow_add]; congr 1; omega)⟩
      rw [hn] at h52 this
      exact Or.inr (Nat.le_of_lt_succ (Nat.lt_of_le_of_ne h52 (Ne.symm this)))
  obtain ⟨⟨hw1, hw2⟩, hs⟩ := (inIv_iff k num den).mp h
  rw [interval_eq] at hw1 hw2 hs
  rw [show k / 2 ^ (bitLen k - 53) = sig k by rw [sig, ulp_eq]] at hs
  simp only [beq_eq_false_iff_ne, Nat.mod_two_ne_zero, Nat.add_mul, Nat.sub_mul, Nat.mul_assoc 2 k den] at hw1 hw2 hs
  have hkd : k * den = sig k * 2 ^ (bitLen k - 53) * den := by rw [hk]
  by_cases hA : k * den ≤ num
  · -- at or above `k`: the bracket `[k, k + ulp)`
    rw [hkd] at hA hw2 hs
    exact (roundK_eq_lo (sig_lt k) hc hd hA hw2 fun ho => (hs ho).2).trans hk
  · have hA : num < k * den := Nat.lt_of_not_le hA
    by_cases hpow : 53 < bitLen k ∧ k = 2 ^ (bitLen k - 1)
    · -- just below the power of two `2^(w+53)`: the bracket `[k - ulp/2, k)` one binade down, whose lower end is odd
      obtain ⟨w, hw⟩ : ∃ w, bitLen k = w + 54 := ⟨bitLen k - 54, by omega⟩
      have hk' : (2 ^ 53 - 1 + 1) * 2 ^ w = k :=
        show 2 ^ 53 * 2 ^ w = k by rw [hpow.2, hw, ← Nat.pow_add, Nat.add_comm]; rfl
      rw [if_pos hpow, hw, show w + 54 - 53 = w + 1 from rfl, Nat.pow_succ, Nat.mul_div_cancel _ (by decide : 0 < 2),
        ← hk'] at hw1
      rw [← hk'] at hA
      exact (roundK_eq_hi (by decide) (Or.inr (by decide)) hA hw1 fun he => absurd he (by decide)).trans hk'
    · -- below `k` in its own binade: the bracket `[k - ulp, k)`
      obtain ⟨n, hn, hcn⟩ := hc' hpow
      have hm := sig_lt k
      rw [if_neg hpow, hkd] at hw1 hs
      rw [hkd] at hA
      rw [hn] at hk hs hm hA hw1
      exact (roundK_eq_hi (Nat.lt_of_succ_lt hm) hcn hA hw1 fun he => (hs (by rw [Nat.add_mod, he])).1).trans hk

end JL.Lemmas.RoundTrip
