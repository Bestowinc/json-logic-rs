import JL.JsOp
/-!
# The equations of `JsOp.toString`

`toString` and `toStringElems` are a mutual structural definition (`simp [JsOp.toString]` does not terminate on a variable):
its clauses are stated here once, and the element list as a `map`.
-/
namespace JL

theorem toString_obj (kvs : List (Str × Json)) : JsOp.toString (.obj kvs) = "[object Object]".toList := by
  unfold JsOp.toString; rfl
theorem toString_true : JsOp.toString (.bool true) = "true".toList := by unfold JsOp.toString; rfl
theorem toString_false : JsOp.toString (.bool false) = "false".toList := by unfold JsOp.toString; rfl
theorem toString_null : JsOp.toString .null = "null".toList := by unfold JsOp.toString; rfl
theorem toString_num (n : Num) : JsOp.toString (.num n) = n.toStr := by unfold JsOp.toString; rfl
theorem toString_str (s : Str) : JsOp.toString (.str s) = s := by unfold JsOp.toString; rfl
theorem toString_arr (xs : List Json) : JsOp.toString (.arr xs) = joinWith [','] (JsOp.toStringElems xs) := by
  unfold JsOp.toString; rfl

/-- the string an array element contributes to `join`: nothing for `null` -/
def elemStr : Json → Str
  | .null => []
  | x => JsOp.toString x

theorem toStringElems_cons (x : Json) (rest : List Json) :
    JsOp.toStringElems (x :: rest) = elemStr x :: JsOp.toStringElems rest := by
  cases x <;> rfl

theorem toStringElems_eq_map : ∀ xs : List Json, JsOp.toStringElems xs = xs.map elemStr
  | [] => rfl
  | x :: rest => by rw [toStringElems_cons, toStringElems_eq_map rest, List.map_cons]

theorem toString_arr_eq_map (xs : List Json) : JsOp.toString (.arr xs) = joinWith [','] (xs.map elemStr) := by
  rw [toString_arr, toStringElems_eq_map]

/-- `hx`: `[null]` joins to `""`, not to `"null"` (`elemStr`) -/
theorem toString_singleton (x : Json) (hx : x ≠ .null) : JsOp.toString (.arr [x]) = JsOp.toString x := by
  cases x with
  | null => exact absurd rfl hx
  | bool b => rfl
  | num n => rfl
  | str s => rfl
  | arr ys => rfl
  | obj kvs => rfl

end JL
