import JL.Lemmas.RoundTripLayout
import JL.Lemmas.RoundTripShortest
import JL.Lemmas.ToString
/-!
# Round trips text ↔ number

Where the text side (`RoundTripLayout`: what `format` lays out is a decimal literal, read back as `ofDecimal` of its value)
meets the float side (`RoundTripShortest`: the digits of `shortest` lie in the rounding interval, and `ofDecimal` of any such
decimal is the double): `format` of a finite double, integers, and the statements at the level of `Num`.
-/
namespace JL.Lemmas.RoundTrip
open JL JL.F64

/-! ## floats -/

/-- the trailing-zero loop only moves the decimal point -/
theorem stripLoop_spec (c0 : Nat) (p0 : Int) :
    ∃ j : Nat, (stripLoop c0 p0).1 * 10 ^ j = c0 ∧ (stripLoop c0 p0).2 - j = p0 := by
  unfold stripLoop
  rw [Id.run_bind, Std.Legacy.Range.forIn_eq_forIn_range']
  refine forIn_list_inv _ _ (fun st => ∃ j : Nat, st.1 * 10 ^ j = c0 ∧ st.2 - j = p0) (c0, p0)
    ⟨0, Nat.mul_one _, Int.sub_zero _⟩ ?_
  intro a _ b ⟨j, hc, hp⟩
  extract_lets c p
  split
  · rename_i hcond
    simp only [Bool.and_eq_true, beq_iff_eq, bne_iff_ne] at hcond
    simp only [Id.run_pure, ForInStep.value]
    refine ⟨j + 1, ?_, (Int.add_sub_add_right _ 1 _).trans hp⟩
    rw [Nat.pow_succ', ← Nat.mul_assoc, Nat.div_mul_cancel (Nat.dvd_of_mod_eq_zero hcond.1)]
    exact hc
  · exact ⟨j, hc, hp⟩

/-- **`Number(format x) = x` and `parseFloat(format x) = x`** for every finite double (both zeros included): the digits
of `shortest` lie in the rounding interval, stripping trailing zeros and laying out only move the decimal point -/
theorem readsAs_format (x : F64) (hf : x.isFinite = true) (hx : WF x) : ReadsAs (format x) x := by
  obtain ⟨n, k, rfl⟩ : ∃ n k, x = fin n k := by cases x <;> simp_all [isFinite]
  have hk : OnGrid k := hx
  by_cases hk0 : k = 0
  · -- `0.0` is the literal of `0 · 10^-1`
    subst hk0
    exact readsAs_lit n (m := 0) (e := -1)
      (.mk (I := ['0']) (F := ['0']) (dot := true) (by decide) (by decide) (by decide) nofun .nil rfl rfl)
  · rw [format_fin, show (k == 0) = false by simpa using hk0]
    obtain ⟨j', hc, hp⟩ := stripLoop_spec (shortest k).1 (shortest k).2
    generalize stripLoop (shortest k).1 (shortest k).2 = cp at hc hp ⊢
    have hin : DecIn k cp.1 cp.2 := (decIn_shift k _ _ j').mp (by
      rw [hc, hp]; exact (shortest_spec k).1 ((shortest_spec k).2 hk0 hk.1))
    obtain ⟨⟨j, hr⟩, -⟩ := layout_reads n cp.1 cp.2
    rw [ofDecimal_inside n k _ _ hk0 hk ((decIn_shift k _ _ j).mpr hin)] at hr
    exact hr

/-! ## integers -/

theorem readsAs_signed_nat (neg : Bool) (n : Nat) :
    ReadsAs ((if neg then ['-'] else []) ++ natToStr n) (ofDecimal neg n 0) :=
  readsAs_lit neg ⟨natToStr n, [], false, [], 0, by simp, natToStr_digits n, nofun, by simp [natToStr_length_pos],
    fun _ => rfl, by simp [digitsVal_natToStr], .nil, rfl⟩

/-- **integers**: the decimal text of any natural number converts to the nearest double (no size bound) -/
theorem readsAs_nat (n : Nat) : ReadsAs (natToStr n) (ofNat n) := by
  have := readsAs_signed_nat false n
  rwa [Lemmas.IEEE.ofDecimal_exp_zero] at this

/-- the text `-m` (`m ≥ 1`) converts to the nearest double of the negative integer -/
theorem readsAs_negNat (m : Nat) (hm : 1 ≤ m) : ReadsAs ('-' :: natToStr m) (ofInt (-(m : Int))) := by
  have := readsAs_signed_nat true m
  rw [Lemmas.IEEE.ofDecimal_exp_zero] at this
  unfold ofInt
  rwa [show decide (-(m : Int) < 0) = true by simp; omega, show (-(m : Int)).natAbs = m by omega]

/-! ## numbers as `serde_json` holds them -/

/-- **`Number(text of x) = x` and `parseFloat(text of x) = x`** for every JSON number: integers of any size (the text
converts to the nearest double), and every finite double -/
theorem readsAs_numToStr (x : Num) (hx : Num.WF x) : ReadsAs x.toStr x.toF64 := by
  cases x with
  | pos n => exact readsAs_nat n
  | neg m => exact readsAs_negNat m hx.1
  | flt f => exact readsAs_format f hx.1 hx.2

theorem toString_singleton_num (x : Num) : JsOp.toString (.arr [.num x]) = x.toStr :=
  (toString_singleton (.num x) nofun).trans (toString_num x)

end JL.Lemmas.RoundTrip
