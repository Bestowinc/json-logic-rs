import JL.Lemmas.RoundTripLayout
/-!
# The serialised form of a value is one line

`Json.ser` never emits a character below U+0020 (in particular no raw newline): strings escape them, numbers are
made of digits and `- + . e`, the rest is punctuation and the three keywords.
-/
namespace JL.Lemmas.RoundTrip
open JL JL.F64 JL.Json

/-- printable: not a C0 control character -/
def Printable (s : Str) : Prop := ∀ x ∈ s, 32 ≤ x.toNat

instance (s : Str) : Decidable (Printable s) := by unfold Printable; exact inferInstance

theorem printable_nil : Printable [] := by intro x hx; cases hx

theorem printable_append {a b : Str} (ha : Printable a) (hb : Printable b) : Printable (a ++ b) := by
  intro x hx
  rcases List.mem_append.mp hx with h | h
  · exact ha x h
  · exact hb x h

theorem printable_cons {c : Char} {s : Str} (hc : 32 ≤ c.toNat) (hs : Printable s) : Printable (c :: s) := by
  intro x hx
  rcases List.mem_cons.mp hx with h | h
  · rw [h]; exact hc
  · exact hs x h

theorem printable_flatMap {α} (l : List α) (f : α → Str) (h : ∀ a ∈ l, Printable (f a)) :
    Printable (l.flatMap f) := by
  intro x hx
  obtain ⟨a, ha, hxa⟩ := List.mem_flatMap.mp hx
  exact h a ha x hxa

theorem printable_not_mem {s : Str} (h : Printable s) {c : Char} (hc : c.toNat < 32) : c ∉ s :=
  fun hm => absurd (h c hm) (Nat.not_le.mpr hc)

/-! ## strings -/

/-- a character that is neither `"`, `\\` nor a control character falls through every test of `escapeChar` -/
theorem escapeChar_plain (c : Char) (h1 : c ≠ '"') (h2 : c ≠ '\\') (h3 : 32 ≤ c.toNat) : escapeChar c = [c] := by
  have e : ∀ d : Char, d.toNat < 32 → c ≠ d := fun d hd h => by subst h; omega
  unfold escapeChar
  rw [if_neg h1, if_neg h2, if_neg (by omega), if_neg (by omega), if_neg (e _ (by decide)), if_neg (e _ (by decide)),
    if_neg (e _ (by decide)), if_neg (by omega)]

/-- an escape sequence: a backslash, at least one more character, nothing below U+0020 (only the last part is used here;
the first two are for `escape_iff` and `escape_shape` in `Props/C18RoundTrip`) -/
def IsEscape (s : Str) : Prop := s.head? = some '\\' ∧ 2 ≤ s.length ∧ Printable s

instance (s : Str) : Decidable (IsEscape s) := by unfold IsEscape; exact inferInstance

/-- the 32 control characters, one by one -/
theorem escapeChar_control : ∀ n, n < 32 → IsEscape (escapeChar (Char.ofNat n)) := by decide +kernel

theorem escapeChar_escaped (c : Char) (h : c = '"' ∨ c = '\\' ∨ c.toNat < 32) : IsEscape (escapeChar c) := by
  rcases h with rfl | rfl | h
  · decide
  · decide
  · simpa using escapeChar_control c.toNat h

theorem escapeChar_printable (c : Char) : Printable (escapeChar c) := by
  by_cases h : c = '"' ∨ c = '\\' ∨ c.toNat < 32
  · exact (escapeChar_escaped c h).2.2
  · rw [escapeChar_plain c (fun e => h (Or.inl e)) (fun e => h (Or.inr (Or.inl e))) (by omega)]
    intro x hx
    rw [List.mem_singleton.mp hx]; omega

theorem serStr_printable (s : Str) : Printable (serStr s) := by
  unfold serStr
  refine printable_cons (by decide) (printable_append (printable_flatMap _ _ (fun c _ => escapeChar_printable c)) ?_)
  exact printable_cons (by decide) printable_nil

/-! ## numbers -/

theorem numChars_printable {s : Str} (h : ∀ x ∈ s, NumChar x) : Printable s :=
  fun x hx => Nat.le_trans (by decide) (numChar_range x (h x hx)).1

theorem natToStr_printable (n : Nat) : Printable (natToStr n) :=
  numChars_printable fun x hx => Or.inl (natToStr_digits n x hx)

theorem format_printable (f : F64) : Printable (format f) := by
  cases f with
  | nan => decide +kernel
  | inf n => cases n <;> decide +kernel
  | fin n k =>
    rw [format_fin]
    split
    · cases n <;> decide +kernel
    · exact numChars_printable (layout_reads _ _ _).2

theorem numToStr_printable (n : Num) : Printable n.toStr := by
  cases n with
  | pos n => exact natToStr_printable n
  | neg m => exact printable_cons (by decide) (natToStr_printable m)
  | flt f => exact format_printable f

/-! ## values -/

mutual
theorem ser_printable : ∀ v : Json, Printable (ser v)
  | .null => by decide +kernel
  | .bool true => by decide +kernel
  | .bool false => by decide +kernel
  | .num n => numToStr_printable n
  | .str s => serStr_printable s
  | .arr xs => by
      unfold ser
      exact printable_cons (by decide) (printable_append (serList_printable xs) (printable_cons (by decide) printable_nil))
  | .obj kvs => by
      unfold ser
      exact printable_cons (by decide) (printable_append (serKvs_printable kvs) (printable_cons (by decide) printable_nil))
theorem serList_printable : ∀ xs : List Json, Printable (serList xs)
  | [] => printable_nil
  | [x] => by unfold serList; exact ser_printable x
  | x :: y :: rest => by
      unfold serList
      exact printable_append (ser_printable x) (printable_cons (by decide) (serList_printable (y :: rest)))
theorem serKvs_printable : ∀ kvs : List (Str × Json), Printable (serKvs kvs)
  | [] => printable_nil
  | [(k, v)] => by
      unfold serKvs
      exact printable_append (serStr_printable k) (printable_cons (by decide) (ser_printable v))
  | (k, v) :: kv :: rest => by
      unfold serKvs
      exact printable_append (printable_append (serStr_printable k) (printable_cons (by decide) (ser_printable v)))
        (printable_cons (by decide) (serKvs_printable (kv :: rest)))
end

end JL.Lemmas.RoundTrip
