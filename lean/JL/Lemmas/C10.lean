import JL.Lemmas.List
import JL.Lemmas.Round
import JL.Lemmas.F64Order
import JL.Spec.Arith
/-!
# `F64` arithmetic and `to_number_value`

Every operation and every conversion returns an actual binary64 (`WF`, and `OptWF` for the partial ones); the algebraic
identities the operators rely on; `to_number_value` is `Spec.Arith.narrow`; the `max` / `min` folds.
-/
namespace JL
namespace F64

theorem units_eq_toInt? (x : F64) : x.units = x.toInt? := by
  rcases x with _ | _ | ⟨_ | _, _⟩ <;> rfl

theorem units_isSome (x : F64) : x.units.isSome = x.isFinite := by
  rcases x with _ | _ | ⟨_ | _, _⟩ <;> rfl

/-! ## commutativity -/

/- Equal signs: the magnitudes are added. Opposite signs: both sides subtract the smaller magnitude from the larger and
take the sign of the larger. -/
theorem add_comm (x y : F64) : add x y = add y x := by
  rcases x with _ | a | ⟨a, x⟩ <;> rcases y with _ | b | ⟨b, y⟩ <;> try rfl
  case inf.inf => cases a <;> cases b <;> rfl
  case fin.fin =>
    simp only [add, beq_iff_eq, gt_iff_lt]
    by_cases hab : a = b
    · rw [if_pos hab, if_pos hab.symm, hab, Nat.add_comm]
    · rw [if_neg hab, if_neg (Ne.symm hab)]
      rcases Nat.lt_trichotomy x y with h | rfl | h
      · rw [if_neg (by omega), if_neg (by omega), if_neg (by omega), if_pos h]
      · rw [if_pos rfl, if_pos rfl]
      · rw [if_neg (by omega), if_pos h, if_neg (by omega), if_neg (by omega)]

theorem mul_comm (x y : F64) : mul x y = mul y x := by
  cases x <;> cases y <;> simp [mul, Nat.mul_comm, Bool.xor_comm]

/-! ## the grid: `roundUnits` always lands on it, so every operation returns a well-formed double -/

/-- in both branches the rounded magnitude is a mantissa `≤ 2^53` (shifted, in the second) -/
theorem roundK_grid (num den : Nat) : 2 ^ (bitLen (roundK num den) - 53) ∣ roundK num den := by
  unfold roundK
  extract_lets q r L up sh m rem half up'
  clear_value up up'
  split
  · rename_i hL
    have hq : q < 2 ^ 53 := (bitLen_le_iff _ _).mp hL
    have := grid_mul_pow (if up then q + 1 else q) 0 (by split; exact hq; exact Nat.le_of_lt hq)
    rwa [Nat.pow_zero, Nat.mul_one] at this
  · rename_i hL
    rw [Nat.shiftLeft_eq]
    refine grid_mul_pow _ sh ?_
    have hm : q >>> sh < 2 ^ 53 := by rw [Nat.shiftRight_eq_div_pow]; exact mant_lt q
    split
    · exact hm
    · exact Nat.le_of_lt hm

-- needed here: with the default threshold `2 ^ 2098` is unfolded, not evaluated, and the proof ends in "maximum recursion
-- depth"; at the three declarations below the option only silences the warning
set_option exponentiation.threshold 2100 in
theorem roundUnits_WF (neg : Bool) (num den : Nat) : WF (roundUnits neg num den) := by
  rw [roundUnits_eq]
  by_cases h : roundK num den ≥ OVF
  · rw [if_pos h]; trivial
  · rw [if_neg h]; exact ⟨by omega, .inr (roundK_grid num den)⟩

set_option exponentiation.threshold 2100 in
theorem onGrid_zero : OnGrid 0 := by
  refine ⟨?_, Or.inl ?_⟩
  · unfold OVF; exact Nat.pow_pos (by decide)
  · simp [bitLen]

theorem WF_nan : WF nan := True.intro
theorem WF_inf {a : Bool} : WF (inf a) := True.intro
theorem WF_zero {a : Bool} : WF (fin a 0) := onGrid_zero

set_option exponentiation.threshold 2100 in
theorem onGrid_two_pow (n : Nat) (h : n < 2098) : OnGrid (2 ^ n) := by
  refine ⟨?_, Or.inr ?_⟩
  · unfold OVF; exact Nat.pow_lt_pow_right (by decide) h
  · rw [bitLen_two_pow]; exact Nat.pow_dvd_pow 2 (by omega)

set_option exponentiation.threshold 2100 in
theorem WF_one : WF one := by
  show OnGrid S
  unfold S; exact onGrid_two_pow _ (by decide)

/- `WF (roundUnits …)` must never be unfolded (`whnf` would try to evaluate `2 ^ 2098` against a symbolic magnitude):
the closure facts are applied `with_reducible`. -/
theorem WF_ite {c : Prop} [Decidable c] {a b : F64} (ha : WF a) (hb : WF b) : WF (if c then a else b) :=
  ite_intro (fun _ => ha) fun _ => hb

theorem add_WF (x y : F64) : WF (add x y) := by
  unfold add
  with_reducible
    split
    · exact WF_nan
    · exact WF_nan
    · exact WF_ite WF_inf WF_nan
    · exact WF_inf
    · exact WF_inf
    · exact WF_ite (roundUnits_WF _ _ _)
        (WF_ite WF_zero (WF_ite (roundUnits_WF _ _ _) (roundUnits_WF _ _ _)))

theorem negate_WF (x : F64) (h : WF x) : WF (negate x) := by
  cases x <;> exact h

theorem sub_WF (x y : F64) : WF (sub x y) := add_WF _ _

theorem mul_WF (x y : F64) : WF (mul x y) := by
  unfold mul
  with_reducible
    split
    · exact WF_nan
    · exact WF_nan
    · exact WF_inf
    · exact WF_ite WF_nan WF_inf
    · exact WF_ite WF_nan WF_inf
    · exact roundUnits_WF _ _ _

theorem div_WF (x y : F64) : WF (div x y) := by
  unfold div
  with_reducible
    split
    · exact WF_nan
    · exact WF_nan
    · exact WF_nan
    · exact WF_inf
    · exact WF_zero
    · exact WF_ite (WF_ite WF_nan WF_inf) (roundUnits_WF _ _ _)

theorem ofNat_WF (n : Nat) : WF (ofNat n) := by unfold ofNat; with_reducible exact roundUnits_WF _ _ _
theorem ofInt_WF (i : Int) : WF (ofInt i) := by unfold ofInt; with_reducible exact roundUnits_WF _ _ _

theorem ofDecimal_WF (neg : Bool) (d : Nat) (e : Int) : WF (ofDecimal neg d e) := by
  unfold ofDecimal
  with_reducible exact WF_ite WF_zero (WF_ite WF_inf (WF_ite WF_zero
    (WF_ite (roundUnits_WF _ _ _) (roundUnits_WF _ _ _))))

/-- the ulp of `y` divides `y` and every on-grid `x ≥ y`, hence `x % y`, whose own ulp is no larger -/
theorem onGrid_mod {x y : Nat} (hx : OnGrid x) (hy : OnGrid y) (hy0 : y ≠ 0) : OnGrid (x % y) := by
  have dx := (grid_iff _).mp hx.2
  refine ⟨Nat.lt_of_le_of_lt (Nat.mod_le _ _) hx.1, (grid_iff _).mpr ?_⟩
  by_cases hxy : x < y
  · rwa [Nat.mod_eq_of_lt hxy]
  · have d : 2 ^ (bitLen y - 53) ∣ x % y :=
      (Nat.dvd_mod_iff ((grid_iff _).mp hy.2)).mpr (Nat.dvd_trans (ulp_dvd_of_le (by omega)) dx)
    exact Nat.dvd_trans (ulp_dvd_of_le (Nat.le_of_lt (Nat.mod_lt _ (Nat.pos_of_ne_zero hy0)))) d

theorem rem_WF (x y : F64) (hx : WF x) (hy : WF y) : WF (rem x y) := by
  cases x with
  | nan => exact True.intro
  | inf a => cases y <;> exact True.intro
  | fin a k =>
    cases y with
    | nan => exact True.intro
    | inf b => exact hx
    | fin b j =>
      simp only [rem]
      split
      · exact True.intro
      · rename_i h
        exact onGrid_mod hx hy (by simpa using h)

/-! ## identities -/

/-- `±1.0 * x` is `x` with the sign kept or flipped, for every double (NaN, infinities and both zeros included):
the product `k · S / S` is on the grid already -/
theorem signed_one_mul (s : Bool) (x : F64) (hx : WF x) : mul (fin s S) x = if s then negate x else x := by
  cases x with
  | nan => cases s <;> rfl
  | inf a => cases s <;> simp [mul, negate, S_ne_zero]
  | fin a k =>
    simp only [mul]
    rw [Nat.mul_comm, roundUnits_exact _ _ _ S_pos hx]
    cases s <;> cases a <;> rfl

theorem neg_one_mul (x : F64) (hx : WF x) : mul (fin true S) x = negate x := signed_one_mul true x hx

theorem one_mul (x : F64) (hx : WF x) : mul one x = x := signed_one_mul false x hx

theorem mul_one (x : F64) (hx : WF x) : mul x one = x := by rw [mul_comm, one_mul x hx]

/-- `+0 + x = x` except that `+0 + -0 = +0` -/
theorem zero_add (x : F64) (hx : WF x) (h : x ≠ fin true 0) : add zero x = x := by
  cases x with
  | nan => rfl
  | inf a => rfl
  | fin a k =>
    cases a with
    | false => simp [add, zero, roundUnits_one _ _ hx]
    | true =>
      have h1 : ¬ (0 = k) := fun e => h (by rw [← e])
      simp [add, zero, h1, roundUnits_one _ _ hx]

theorem add_zero (x : F64) (hx : WF x) (h : x ≠ fin true 0) : add x zero = x := by
  rw [add_comm, zero_add x hx h]

theorem zero_add_negzero : add zero (fin true 0) = zero := by simp [add, zero]

theorem rem_fin (a b : Bool) (x y : Nat) (hy : y ≠ 0) : rem (fin a x) (fin b y) = fin a (x % y) := by
  simp [rem, hy]

end F64

/-! ## the conversions deliver well-formed doubles -/

theorem Num.toF64_WF (n : Num) (h : Num.WF n) : F64.WF n.toF64 := by
  cases n with
  | pos n => simp only [Num.toF64]; with_reducible exact F64.ofNat_WF _
  | neg m => simp only [Num.toF64]; with_reducible exact F64.ofInt_WF _
  | flt f => exact h.2

namespace F64

/-- whatever `o` delivers is an actual binary64 -/
def OptWF (o : Option F64) : Prop := ∀ x, o = some x → WF x

theorem OptWF.none : OptWF none := fun _ h => nomatch h
theorem OptWF.some {x : F64} (h : WF x) : OptWF (some x) := fun _ e => Option.some.inj e ▸ h
theorem OptWF.ite {c : Prop} [Decidable c] {a b : Option F64} (ha : OptWF a) (hb : OptWF b) :
    OptWF (if c then a else b) := ite_intro (fun _ => ha) fun _ => hb

/-- the sign is put back on a parsed magnitude -/
theorem WF_signed {m : F64} (h : WF m) (neg : Bool) : WF (if neg then negate m else m) := by
  cases neg
  · exact h
  · exact negate_WF m h

end F64

namespace JsOp
open F64

/- The parsers are followed along their control flow: each leaf is NaN, an infinity, a zero, or comes out of `roundUnits`.
On the goal, except `radixLiteral_WF`, whose statement has the result in a hypothesis. -/

theorem rustParseF64_WF (s : Str) : OptWF (rustParseF64 s) := by
  unfold rustParseF64
  -- a bare `split` (no bullets) opens a destructuring `let (…) := …` of the body: one goal
  split
  refine .ite (.some WF_inf) (.ite (.some WF_nan) ?_)
  extract_lets intDs r1
  split
  refine .ite .none ?_
  extract_lets mant
  split
  · with_reducible exact .some (ofDecimal_WF _ _ _)
  · refine .ite ?_ .none
    split
    with_reducible exact .ite .none (.some (ofDecimal_WF _ _ _))

theorem radixLiteral_WF (s : Str) (o : Option F64) (h : radixLiteral s = some o) : OptWF o := by
  unfold radixLiteral at h
  split at h
  · extract_lets rb at h
    clear_value rb
    split at h
    · cases h
    · split at h
      · cases h; exact .none
      · split at h
        · cases h; exact .none
        · obtain rfl := Option.some.inj h
          with_reducible exact .some (WF_ite WF_inf (mul_WF _ _))
  · cases h

theorem strToNumber_WF (s : Str) : OptWF (strToNumber s) := by
  unfold strToNumber
  extract_lets t
  refine .ite (.some WF_zero) ?_
  split
  · rename_i rv hr; exact radixLiteral_WF _ rv hr
  · split
    extract_lets magnitude
    have hm : OptWF magnitude := .ite (.some WF_inf) (.ite (rustParseF64_WF _) .none)
    clear_value magnitude
    cases magnitude with
    | none => exact .none
    | some m => exact .some (WF_signed (hm m rfl) _)

theorem parseFloatString_WF (s : Str) : OptWF (parseFloatString s) := by
  unfold parseFloatString
  split
  extract_lets magnitude
  have hm : OptWF magnitude := .ite (.some WF_inf) (rustParseF64_WF _)
  clear_value magnitude
  cases magnitude with
  | none => exact .none
  | some m => exact .some (WF_signed (hm m rfl) _)

theorem toNumber_WF (v : Json) (hv : v.wf = true) : OptWF (toNumber v) := by
  cases v with
  | null => exact .some WF_zero
  | bool b =>
    cases b
    · exact .some WF_zero
    · exact .some WF_one
  | num n => exact .some (Num.toF64_WF n (of_decide_eq_true hv))
  | str s => exact strToNumber_WF s
  | arr xs => exact strToNumber_WF (toString (.arr xs))
  | obj kvs => exact strToNumber_WF (toString (.obj kvs))

theorem parseFloat_WF (v : Json) (hv : v.wf = true) : OptWF (parseFloat v) := by
  cases v with
  | num n => exact .some (Num.toF64_WF n (of_decide_eq_true hv))
  | str s => exact parseFloatString_WF s
  | null => exact parseFloatString_WF (toString .null)
  | bool b => exact parseFloatString_WF (toString (.bool b))
  | arr xs => exact parseFloatString_WF (toString (.arr xs))
  | obj kvs => exact parseFloatString_WF (toString (.obj kvs))

/- The two-operand helpers: `- /` round, so their results are on the grid whatever the operands are; `%` returns a remainder
of the converted operands and needs these well-formed. -/

theorem toNegative_WF (a : Json) : OptWF (toNegative a) := by
  unfold toNegative
  split
  · exact .some (mul_WF _ _)
  · exact .none

theorem abstractMinus_WF (a b : Json) : OptWF (abstractMinus a b) := by
  unfold abstractMinus
  split
  · exact .some (sub_WF _ _)
  · exact .none

theorem abstractDiv_WF (a b : Json) : OptWF (abstractDiv a b) := by
  unfold abstractDiv
  split
  · exact .some (div_WF _ _)
  · exact .none

theorem abstractMod_WF (a b : Json) (ha : a.wf = true) (hb : b.wf = true) : OptWF (abstractMod a b) := by
  unfold abstractMod
  split
  · next p q hp hq => exact .some (rem_WF _ _ (toNumber_WF a ha p hp) (toNumber_WF b hb q hq))
  · exact .none

/-! ### the four folds (`+`, `*`, `max`, `min`)

The model writes the step of each as a λ-term inside `parseFloatAdd` …; here it has a name (a tie says `rs_loop_opt addStep`),
`*_foldlM` puts the name into the model's definition, and `*Step_eq` says what every such step is: convert the operand, combine
it with the accumulator. -/

/-- one step of `parse_float_add` -/
def addStep (total : F64) (v : Json) : Option F64 :=
  match parseFloat v with
  | some n => some (F64.add total n)
  | none => none
/-- one step of `parse_float_mul` -/
def mulStep (total : F64) (v : Json) : Option F64 :=
  match parseFloat v with
  | some n => some (F64.mul total n)
  | none => none
/-- one step of `abstract_max` -/
def maxStep (max : F64) (v : Json) : Option F64 :=
  match toNumber v with
  | some n => some (if F64.gt n max then n else max)
  | none => none
/-- one step of `abstract_min` -/
def minStep (min : F64) (v : Json) : Option F64 :=
  match toNumber v with
  | some n => some (if F64.lt n min then n else min)
  | none => none

theorem parseFloatAdd_foldlM (vals : List Json) : parseFloatAdd vals = vals.foldlM addStep F64.zero := rfl
theorem parseFloatMul_foldlM (vals : List Json) : parseFloatMul vals = vals.foldlM mulStep F64.one := rfl
theorem abstractMax_foldlM (items : List Json) : abstractMax items = items.foldlM maxStep (F64.inf true) := rfl
theorem abstractMin_foldlM (items : List Json) : abstractMin items = items.foldlM minStep (F64.inf false) := rfl

theorem addStep_eq (acc : F64) (v : Json) : addStep acc v = (parseFloat v).map (F64.add acc) := by
  unfold addStep; cases parseFloat v <;> rfl
theorem mulStep_eq (acc : F64) (v : Json) : mulStep acc v = (parseFloat v).map (F64.mul acc) := by
  unfold mulStep; cases parseFloat v <;> rfl
theorem maxStep_eq (acc : F64) (v : Json) : maxStep acc v = (toNumber v).map (Spec.Arith.fmax acc) := by
  unfold maxStep; cases toNumber v <;> rfl
theorem minStep_eq (acc : F64) (v : Json) : minStep acc v = (toNumber v).map (Spec.Arith.fmin acc) := by
  unfold minStep; cases toNumber v <;> rfl

/-- a fold with such a step delivers a double if combining with a converted operand does -/
theorem convFold_WF {f : Json → Option F64} {op : F64 → F64 → F64} {g : F64 → Json → Option F64}
    (hg : ∀ acc v, g acc v = (f v).map (op acc)) (items : List Json)
    (hop : ∀ v ∈ items, ∀ n, f v = some n → ∀ a, WF a → WF (op a n)) {b : F64} (hb : WF b) :
    OptWF (items.foldlM g b) := fun x h => by
  refine foldlM_inv_mem WF g items (fun v hv a a' ha hs => ?_) b x hb h
  rw [hg, Option.map_eq_some_iff] at hs
  obtain ⟨n, hn, rfl⟩ := hs
  exact hop v hv n hn a ha

/- `+` and `*` round, so their results are on the grid whatever the operands are; `max` and `min` return one of the converted
operands or the start of the fold, and need the operands well-formed. -/

theorem parseFloatAdd_WF (items : List Json) : OptWF (parseFloatAdd items) :=
  convFold_WF addStep_eq items (fun _ _ _ _ _ _ => add_WF _ _) WF_zero

theorem parseFloatMul_WF (items : List Json) : OptWF (parseFloatMul items) :=
  convFold_WF mulStep_eq items (fun _ _ _ _ _ _ => mul_WF _ _) WF_one

theorem abstractMax_WF (items : List Json) (hi : ∀ i ∈ items, i.wf = true) : OptWF (abstractMax items) :=
  convFold_WF maxStep_eq items (fun v hv n hn _ ha => WF_ite (toNumber_WF v (hi v hv) n hn) ha) WF_inf

theorem abstractMin_WF (items : List Json) (hi : ∀ i ∈ items, i.wf = true) : OptWF (abstractMin items) :=
  convFold_WF minStep_eq items (fun v hv n hn _ ha => WF_ite (toNumber_WF v (hi v hv) n hn) ha) WF_inf

end JsOp

open F64 Spec.Arith Lemmas.F64Order

/-! ## narrowing: `to_number_value` is `Spec.Arith.narrow`

Both are normalised on `fin a k`, according to whether `k` is a multiple `q · S` (an integer, of signed value
`sval (fin a q)`) or not. -/

theorem units_fin (a : Bool) (k : Nat) : (fin a k).units = some (sval (fin a k)) := by cases a <;> rfl

theorem sval_mul (a : Bool) (q : Nat) : sval (fin a (q * S)) = sval (fin a q) * (S : Int) := by
  cases a <;> simp [sval, Int.neg_mul]

theorem intNum_eq_ofI64 (i : Int) : intNum i = Num.ofI64 i := by
  cases i with
  | ofNat n => simp [intNum, Num.ofI64]
  | negSucc n => simp [intNum, Num.ofI64, Int.negSucc_lt_zero]

/-- on an integral double the tests of `to_number_value` compare the integer with `-2^63`, `2^63`, `2^64`
(`S` cancels), and `as i64` / `as u64` return it -/
theorem toNumberValue_integral (a : Bool) (q : Nat) :
    toNumberValue (fin a (q * S)) =
      some (.num (if Fits64 (sval (fin a q)) then intNum (sval (fin a q)) else .flt (fin a (q * S)))) := by
  have hS := S_posI
  have e : truncInt (fin a (q * S)) = sval (fin a q) := by
    simp only [truncInt, Nat.mul_div_cancel _ S_pos, sval]
  simp only [toNumberValue, fractIsZero, ge, negate, I64_LIMIT, U64_LIMIT, lt_fin, le_fin, Nat.mul_mod_left,
    BEq.rfl, Bool.true_and, Bool.not_false, e, sval_fin_false, sval_fin_true, sval_mul, Int.mul_lt_mul_right hS,
    Int.mul_le_mul_right hS, Bool.and_eq_true, decide_eq_true_eq, Int.natCast_pow, Int.cast_ofNat_Int]
  generalize sval (fin a q) = i
  split
  · rename_i h
    rw [if_pos ⟨h.1, Int.lt_trans h.2 (by decide)⟩, intNum_eq_ofI64]
  · rename_i h1
    split
    · rename_i h
      rw [if_pos ⟨Int.le_trans (by decide) h.1, h.2⟩]
      obtain ⟨n, rfl⟩ := Int.eq_ofNat_of_zero_le (Int.le_trans (by decide) h.1)
      rfl
    · rename_i h2
      rw [if_neg fun hf => (Int.lt_or_le i (2 ^ 63)).elim (fun hl => h1 ⟨hf.1, hl⟩) (fun hg => h2 ⟨hg, hf.2⟩)]
      rfl

theorem narrow_of_units {x : F64} {u : Int} (hx : x.units = some u) :
    narrow x = some (if (S : Int) ∣ u ∧ Fits64 (u / (S : Int)) then intNum (u / (S : Int)) else .flt x) := by
  unfold narrow; rw [hx]; simp only []; split <;> rfl

theorem narrow_cases (x : F64) (n : Num) (h : narrow x = some n) :
    ∃ u, x.units = some u ∧
      (((S : Int) ∣ u ∧ Fits64 (u / (S : Int)) ∧ n = intNum (u / (S : Int))) ∨ n = .flt x) := by
  cases hu : x.units with
  | none => simp only [narrow, hu] at h; cases h
  | some u =>
    rw [narrow_of_units hu] at h
    obtain rfl := Option.some.inj h
    refine ⟨u, rfl, ?_⟩
    split
    · rename_i hc; exact .inl ⟨hc.1, hc.2, rfl⟩
    · exact .inr rfl

theorem narrow_integral (a : Bool) (q : Nat) :
    narrow (fin a (q * S)) =
      some (if Fits64 (sval (fin a q)) then intNum (sval (fin a q)) else .flt (fin a (q * S))) := by
  simp only [narrow_of_units (units_fin a _), sval_mul, Int.mul_ediv_cancel _ (Int.ne_of_gt S_posI),
    Int.dvd_mul_left, true_and]

theorem toNumberValue_nonint (a : Bool) (k : Nat) (h : ¬ S ∣ k) :
    toNumberValue (fin a k) = some (.num (.flt (fin a k))) := by
  have h' : ¬ k % S = 0 := fun e => h (Nat.dvd_of_mod_eq_zero e)
  simp [toNumberValue, fractIsZero, h', Num.ofF64?, isFinite]

theorem narrow_nonint (a : Bool) (k : Nat) (h : ¬ S ∣ k) : narrow (fin a k) = some (.flt (fin a k)) := by
  have h1 : ¬ ((S : Int) ∣ (k : Int)) := fun e => h (Int.natCast_dvd_natCast.mp e)
  rw [narrow_of_units (units_fin a k), if_neg]
  cases a <;> simp [sval, h1, Int.dvd_neg]

theorem toNumberValue_eq_narrow (x : F64) : toNumberValue x = (narrow x).map Json.num := by
  cases x with
  | nan => rfl
  | inf a => rfl
  | fin a k =>
    by_cases hd : S ∣ k
    · obtain ⟨q, hq⟩ := hd
      rw [hq, Nat.mul_comm, toNumberValue_integral, narrow_integral]; rfl
    · rw [toNumberValue_nonint _ _ hd, narrow_nonint _ _ hd]; rfl

theorem intNum_WF (i : Int) (h : Fits64 i) : Num.WF (intNum i) := by
  obtain ⟨h1, h2⟩ := h
  cases i with
  | ofNat n =>
    change (n : Int) < 2 ^ 64 at h2
    simp only [intNum, Num.WF]; omega
  | negSucc n => simp only [intNum, Num.WF]; rw [Int.negSucc_eq] at h1; omega

/-- the value `to_number_value` builds from an actual binary64 is a well-formed JSON number: a `u64`, a negative `i64`, or
the finite double itself (non-finite results are `Err`) -/
theorem toNumberValue_wf (x : F64) (hx : F64.WF x) (v : Json) (h : toNumberValue x = some v) : v.wf = true := by
  rw [toNumberValue_eq_narrow] at h
  obtain ⟨n, hn, rfl⟩ := Option.map_eq_some_iff.mp h
  obtain ⟨u, hu, ⟨-, hf, rfl⟩ | rfl⟩ := narrow_cases x n hn
  · exact decide_eq_true (intNum_WF _ hf)
  · exact decide_eq_true ⟨(units_isSome x).symm.trans (by rw [hu]; rfl), hx⟩

/-! ## maximum / minimum folds

`fmax` and `fmin` both keep the accumulator unless the next element beats it, for the relation `lt` resp. its converse,
and `IsMax` / `IsMin` are the same notion of an extremum for the two relations: everything is proved once, for an
irreflexive transitive `r`. -/

section pick
variable {r : F64 → F64 → Bool} (irr : ∀ x, r x x = false)
  (tr : ∀ a b c, r a b = true → r b c = true → r a c = true)
include tr

theorem foldl_pick_lt {ns : List F64} {a c : F64}
    (h : r (ns.foldl (fun m n => if r m n then n else m) a) c = true) : r a c = true := by
  induction ns generalizing a with
  | nil => exact h
  | cons n ns ih =>
    have h1 : r (if r a n then n else a) c = true := ih h
    split at h1
    · exact tr _ _ _ ‹_› h1
    · exact h1

include irr

theorem foldl_pick_ge (ns : List F64) (a n : F64) (hn : n ∈ ns) :
    r (ns.foldl (fun m n => if r m n then n else m) a) n = false := by
  induction ns generalizing a with
  | nil => cases hn
  | cons m ms ih =>
    rcases List.mem_cons.mp hn with rfl | h
    · rw [← Bool.not_eq_true]
      intro hc
      have h1 : r (if r a n then n else a) n = true := foldl_pick_lt tr hc
      split at h1
      · rw [irr] at h1; cases h1
      · contradiction
    · exact ih _ h

end pick

theorem foldl_pick_mem (r : F64 → F64 → Bool) (ns : List F64) (a : F64) :
    ns.foldl (fun m n => if r m n then n else m) a ∈ ns ∨ ns.foldl (fun m n => if r m n then n else m) a = a := by
  induction ns generalizing a with
  | nil => exact .inr rfl
  | cons m ms ih =>
    rcases ih (if r a m then m else a) with h | h
    · exact .inl (List.mem_cons_of_mem _ h)
    · rw [List.foldl_cons, h]
      split
      · exact .inl List.mem_cons_self
      · exact .inr rfl

theorem isMax_foldl (ns : List F64) : IsMax (ns.foldl fmax (inf true)) ns :=
  ⟨foldl_pick_ge lt_irrefl lt_trans ns _, foldl_pick_mem F64.lt ns _⟩

theorem isMin_foldl (ns : List F64) : IsMin (ns.foldl fmin (inf false)) ns :=
  ⟨foldl_pick_ge (r := fun m n => F64.lt n m) lt_irrefl (fun a b c h1 h2 => lt_trans c b a h2 h1) ns _,
   foldl_pick_mem (fun m n => F64.lt n m) ns _⟩

/-- convert, then fold from a start `b` that every number beats or equals (`hb`): with at least one operand and no NaN the
result is one of the converted operands and none of them beats it. `hs`: off NaN, `¬ r x y` is `s y x` (for `r = <`: `s = ≤`). -/
theorem foldOf_attained {α : Type} (f : α → Option F64) {r s : F64 → F64 → Bool} (irr : ∀ x, r x x = false)
    (tr : ∀ a b c, r a b = true → r b c = true → r a c = true) {b : F64}
    (hb : ∀ n, n.isNaN = false → r b n = false → n = b)
    (hs : ∀ x y, x.isNaN = false → y.isNaN = false → r x y = false → s y x = true) {items : List α} {m : F64}
    (h : (items.mapM f).map (List.foldl (fun m n => if r m n then n else m) b) = some m)
    (hne : items ≠ []) (hnan : ∀ v ∈ items, ∀ x, f v = some x → x.isNaN = false) :
    (∃ v ∈ items, f v = some m) ∧ ∀ v ∈ items, ∃ x, f v = some x ∧ s x m = true := by
  obtain ⟨ns, hns, rfl⟩ := Option.map_eq_some_iff.mp h
  obtain ⟨h1, h2⟩ := mem_of_map_eq ((mapM_eq_some_iff f items ns).mp hns)
  have hge := foldl_pick_ge irr tr ns b
  have hm : ∃ v ∈ items, f v = some (ns.foldl (fun m n => if r m n then n else m) b) := by
    refine h1 _ ?_
    rcases foldl_pick_mem r ns b with hm | hm
    · exact hm
    · obtain ⟨v, hv⟩ := List.exists_mem_of_ne_nil items hne
      obtain ⟨n, hn, e⟩ := h2 v hv
      rw [hm, ← hb n (hnan v hv n e) (hm ▸ hge n hn)]
      exact hn
  obtain ⟨w, hw, ew⟩ := hm
  refine ⟨⟨w, hw, ew⟩, fun v hv => ?_⟩
  obtain ⟨n, hn, e⟩ := h2 v hv
  exact ⟨n, e, hs _ _ (hnan w hw _ ew) (hnan v hv n e) (hge n hn)⟩

end JL
