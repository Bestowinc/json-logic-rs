import JL.Spec.ES
import JL.Lemmas.ToString
/-!
# Lemmas for C07, on the standard's side: Number::equal is the model's `F64.eq`; the shape all comparisons
of the standard share once ToPrimitive is done (`primRel`); IsLooselyEqual with its recursion carried out
(`looseFuel_closed`), hence the depth budget; the spec's ToString is `JsOp.toString`.
-/
namespace JL.Lemmas.C07
open JL JL.Spec.ES

theorem isZero_fin (a : Bool) (k : Nat) : (F64.fin a k).isZero = (k == 0) := by
  cases k <;> rfl

/-- 6.1.6.1.13 Number::equal, written as the standard's step list, is IEEE `==` of the model -/
theorem numberEqual_eq (x y : F64) : numberEqual x y = F64.eq x y := by
  cases x with
  | nan => rfl
  | inf a =>
    cases y with
    | nan => rfl
    | inf b => cases a <;> cases b <;> rfl
    | fin b k => rfl
  | fin a j =>
    cases y with
    | nan => rfl
    | inf b => cases j <;> rfl
    | fin b k =>
      -- step 3 (`x is y`) or steps 4, 5 (both zero): the two disjuncts of `F64.eq`, in the other order
      simp only [numberEqual, F64.eq, F64.isNaN, isZero_fin, Bool.false_eq_true, ↓reduceIte, F64.fin.injEq,
        Bool.if_true_left, Bool.decide_and, Bool.or_comm (decide (a = b) && decide (j = k))]
      cases (j == 0 && k == 0) <;> rfl

theorem toNumber_boolean (s2n) (b : Bool) : (Val.boolean b).toNumber s2n = if b then F64.one else F64.zero := by
  cases b <;> rfl
theorem toNumber_string (s2n) (s : Str) : (Val.string s).toNumber s2n = optNumber (s2n s) := rfl
theorem toNumber_number (s2n) (x : F64) : (Val.number x).toNumber s2n = x := rfl
theorem toNumber_null (s2n) : Val.null.toNumber s2n = F64.zero := rfl
theorem toNumber_object (s2n) (j : Json) : (Val.object j).toNumber s2n = optNumber (s2n (JsOp.toString j)) := rfl

theorem toNumber_toPrimitive (s2n) (v : Val) : v.toPrimitive.toNumber s2n = v.toNumber s2n := by
  cases v <;> rfl

/-! ## the shape of every comparison -/
section
variable (s2n : Str → Option F64) {β : Type} {sr : Str → Str → β} {nr : F64 → F64 → β}

/-- what the comparisons of the standard have in common once ToPrimitive is done: a relation on strings if
both primitives are strings, otherwise a relation on the two ToNumber conversions.
`Val.isLessThan` is `primRel (fun s t => some (strLt s t)) numberLessThan` by definition. -/
def primRel (sr : Str → Str → β) (nr : F64 → F64 → β) (x y : Val) : β :=
  match x.toPrimitive, y.toPrimitive with
  | .string s, .string t => sr s t
  | px, py => nr (px.toNumber s2n) (py.toNumber s2n)

theorem primRel_strings {s2n} {x y : Val} {s t : Str} (hx : x.toPrimitive = .string s) (hy : y.toPrimitive = .string t) :
    primRel s2n sr nr x y = sr s t := by
  unfold primRel; rw [hx, hy]

theorem primRel_numbers {s2n} {x y : Val} (h : ¬ ∃ s t, x.toPrimitive = .string s ∧ y.toPrimitive = .string t) :
    primRel s2n sr nr x y = nr (x.toNumber s2n) (y.toNumber s2n) := by
  rw [← toNumber_toPrimitive s2n x, ← toNumber_toPrimitive s2n y]
  unfold primRel
  split
  · next hx hy => exact absurd ⟨_, _, hx, hy⟩ h
  · rfl

theorem primRel_flip (x y : Val) :
    primRel s2n sr nr x y = primRel s2n (fun s t => sr t s) (fun a b => nr b a) y x := by
  unfold primRel
  generalize x.toPrimitive = p, y.toPrimitive = q
  cases p <;> cases q <;> rfl

theorem primRel_symm (hs : ∀ s t, sr s t = sr t s) (hn : ∀ a b, nr a b = nr b a) (x y : Val) :
    primRel s2n sr nr x y = primRel s2n sr nr y x := by
  rw [primRel_flip]
  congr
  · funext s t; exact hs t s
  · funext a b; exact hn b a

theorem primRel_mono {s2n} {sr sr' : Str → Str → Bool} {nr nr' : F64 → F64 → Bool} (hs : ∀ s t, sr s t = true → sr' s t = true)
    (hn : ∀ a b, nr a b = true → nr' a b = true) (x y : Val) :
    primRel s2n sr nr x y = true → primRel s2n sr' nr' x y = true := by
  unfold primRel; split
  · exact hs _ _
  · exact hn _ _

theorem map_primRel {γ : Type} (f : β → γ) (x y : Val) :
    f (primRel s2n sr nr x y) = primRel s2n (fun s t => f (sr s t)) (fun a b => f (nr a b)) x y := by
  unfold primRel; split <;> rfl

/-! ## IsLooselyEqual in closed form -/

/-- null equals only null, and two objects are never the same instance -/
def eqGuard (x y : Val) : Bool :=
  (x.type == .Null) == (y.type == .Null) && !(x.type == .Object && y.type == .Object)

theorem eqGuard_comm (x y : Val) : eqGuard x y = eqGuard y x := by
  unfold eqGuard; rw [Bool.beq_comm, Bool.and_comm (x.type == .Object)]

/-- Booleans compare as the numbers 1 and +0 (a table of four) -/
theorem eq_bools (a b : Bool) :
    F64.eq (if a then F64.one else F64.zero) (if b then F64.one else F64.zero) = (a == b) := by
  cases a <;> cases b <;> decide +kernel

/-- IsLooselyEqual with its recursion carried out: apart from `eqGuard` it has the shape of the relational
operators, with equality of strings and Number::equal. With `F64.eq` on the right written back as `numberEqual`
(the first `rw`), each of the 25 type pairs runs through the steps of 7.2.14 by unfolding; only Boolean against
Boolean ends in something else, `decide (a = b)`. -/
theorem looseFuel_closed (n : Nat) (x y : Val) :
    looseFuel s2n (n + 4) x y = (eqGuard x y && primRel s2n (fun s t => decide (s = t)) F64.eq x y) := by
  rw [← funext fun a => funext (numberEqual_eq a)]
  cases x <;> cases y <;> try rfl
  next a b =>
    show decide (a = b) = numberEqual (Val.toNumber s2n (.boolean a)) (Val.toNumber s2n (.boolean b))
    rw [numberEqual_eq, toNumber_boolean, toNumber_boolean, eq_bools]; rfl

/-- the depth budget 4 of `Val.looselyEqual` is never exhausted: any larger budget gives the same answer -/
theorem looseFuel_stable (n : Nat) (x y : Val) : looseFuel s2n (n + 4) x y = looseFuel s2n 4 x y :=
  (looseFuel_closed s2n n x y).trans (looseFuel_closed s2n 0 x y).symm

theorem looselyEqual_eq (a b : Json) : looselyEqual s2n a b =
    (eqGuard (ofJson a) (ofJson b) && primRel s2n (fun s t => decide (s = t)) F64.eq (ofJson a) (ofJson b)) :=
  looseFuel_closed s2n 0 _ _

end

theorem joinWith_cons_cons (sep x y : Str) (rest : List Str) :
    joinWith sep (x :: y :: rest) = x ++ sep ++ joinWith sep (y :: rest) := rfl

theorem joinFrom_cons (first : Bool) (x : Json) (rest : List Json) (hx : JsOp.toString x = toStr x) :
    joinFrom first (x :: rest) = (if first then [] else [',']) ++ elemStr x ++ joinFrom false rest := by
  cases x <;> simp [joinFrom, elemStr, hx]

mutual
theorem toString_es : ∀ v : Json, JsOp.toString v = toStr v
  | .arr xs => by
      -- `unfold`, not `rw [toStr]`: rewriting with the equations of the mutual `toStr` runs out of heartbeats
      unfold JsOp.toString toStr
      exact (elems_es xs).1
  | .null | .bool true | .bool false | .num _ | .str _ | .obj _ => by unfold JsOp.toString toStr; rfl
/-- the second half is the invariant of the loop of `join`: after the first element, what `joinFrom false` appends is
a comma and the comma-joined rest -/
theorem elems_es : ∀ xs : List Json,
    joinWith [','] (JsOp.toStringElems xs) = joinFrom true xs ∧
    joinFrom false xs = (match xs with | [] => [] | _ :: _ => ',' :: joinWith [','] (JsOp.toStringElems xs))
  | [] => ⟨rfl, rfl⟩
  | x :: rest => by
      have ih := (elems_es rest).2
      simp only [toStringElems_cons, joinFrom_cons _ _ _ (toString_es x), ih]
      cases rest <;> simp [JsOp.toStringElems, joinWith, toStringElems_cons]
end

end JL.Lemmas.C07
