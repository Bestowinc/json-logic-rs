/-!
# Folds and `mapM` in `Option`, lists by their length, `zip`, two rules for `forIn` over a list in `Id` (invariant, search), `ite_intro`

Nothing here mentions the model (no imports).
-/
namespace JL

theorem ite_intro {α : Sort _} {P : α → Prop} {c : Prop} [Decidable c] {a b : α} (ha : c → P a) (hb : ¬ c → P b) :
    P (if c then a else b) := by
  split
  · exact ha ‹_›
  · exact hb ‹_›

theorem dropWhile_eq_self {α} {p : α → Bool} {t : List α} (h : ∀ c ∈ t, p c = false) :
    t.dropWhile p = t := by
  cases t with
  | nil => rfl
  | cons c cs => exact List.dropWhile_cons_of_neg (by simp [h c (by simp)])

/-! ## folds and `mapM` in `Option` -/

theorem foldlM_inv_mem {α β : Type} (P : β → Prop) (f : β → α → Option β) :
    ∀ (l : List α), (∀ a ∈ l, ∀ b b', P b → f b a = some b' → P b') →
      ∀ b b', P b → l.foldlM f b = some b' → P b'
  | [], _, b, b', hb, h => by simp at h; exact h ▸ hb
  | a :: l, hf, b, b', hb, h => by
    rw [List.foldlM_cons] at h
    cases hfa : f b a with
    | none => simp [hfa] at h
    | some c =>
      simp [hfa] at h
      exact foldlM_inv_mem P f l (fun a' ha' => hf a' (List.mem_cons_of_mem _ ha')) c b'
        (hf a List.mem_cons_self b c hb hfa) h

/-- a fold whose step converts the element and fails if the conversion does: convert all, then fold -/
theorem foldlM_conv {α β γ : Type} (f : α → Option β) (op : γ → β → γ) (g : γ → α → Option γ)
    (hg : ∀ acc v, g acc v = (f v).map (op acc)) (items : List α) (init : γ) :
    items.foldlM g init = (items.mapM f).map (List.foldl op init) := by
  induction items generalizing init with
  | nil => simp
  | cons v vs ih =>
    simp only [List.foldlM_cons, List.mapM_cons, hg]
    cases h : f v with
    | none => simp
    | some n => simp [ih]; cases List.mapM f vs <;> simp

theorem mapM_singleton_map_foldl {α β γ : Type} (f : α → Option β) (op : γ → β → γ) (init : γ) (v : α) :
    ([v].mapM f).map (List.foldl op init) = (f v).map (op init) := by
  cases h : f v <;> simp [h]

theorem mapM_cons_option {α β : Type} (f : α → Option β) (v : α) (vs : List α) :
    (v :: vs).mapM f = (f v).bind fun n => (vs.mapM f).map (n :: ·) := by
  rw [List.mapM_cons]; cases f v <;> cases vs.mapM f <;> rfl

theorem mapM_eq_none_iff {α β : Type} (f : α → Option β) (items : List α) :
    items.mapM f = none ↔ ∃ v ∈ items, f v = none := by
  induction items with
  | nil => simp
  | cons v vs ih =>
    simp only [mapM_cons_option, List.mem_cons, exists_eq_or_imp, ← ih]
    cases f v <;> cases vs.mapM f <;> simp

theorem mapM_map_eq_none_iff {α β γ : Type} (f : α → Option β) (g : List β → γ) (items : List α) :
    (items.mapM f).map g = none ↔ ∃ v ∈ items, f v = none := by
  rw [Option.map_eq_none_iff, mapM_eq_none_iff]

theorem mapM_eq_some_iff {α β : Type} (f : α → Option β) (items : List α) (ns : List β) :
    items.mapM f = some ns ↔ items.map f = ns.map some := by
  induction items generalizing ns with
  | nil => cases ns <;> simp
  | cons v vs ih =>
    rw [mapM_cons_option]
    cases ns with
    | nil => cases f v <;> cases vs.mapM f <;> simp
    | cons m ms =>
      rw [List.map_cons, List.map_cons, List.cons.injEq, ← ih ms]
      cases f v <;> cases vs.mapM f <;> simp

theorem mem_of_map_eq {α β : Type} {f : α → Option β} {items : List α} {ns : List β}
    (h : items.map f = ns.map some) :
    (∀ n ∈ ns, ∃ v ∈ items, f v = some n) ∧ (∀ v ∈ items, ∃ n ∈ ns, f v = some n) := by
  constructor
  · intro n hn
    have : some n ∈ items.map f := h ▸ List.mem_map_of_mem hn
    exact List.mem_map.mp this
  · intro v hv
    have : f v ∈ ns.map some := h ▸ List.mem_map_of_mem hv
    obtain ⟨n, hn, e⟩ := List.mem_map.mp this
    exact ⟨n, hn, e.symm⟩

/-! ## shapes of lists by their length, `zip` -/

theorem two_le {α} (xs : List α) (h : 2 ≤ xs.length) : ∃ c e rest, xs = c :: e :: rest := by
  match xs, h with
  | c :: e :: rest, _ => exact ⟨c, e, rest, rfl⟩
theorem three_le {α} (xs : List α) (h : 3 ≤ xs.length) : ∃ c e i rest, xs = c :: e :: i :: rest := by
  match xs, h with
  | c :: e :: i :: rest, _ => exact ⟨c, e, i, rest, rfl⟩

theorem length_eq_two {α} {xs : List α} (h : xs.length = 2) : ∃ a b, xs = [a, b] := by
  match xs, h with
  | [a, b], _ => exact ⟨a, b, rfl⟩
theorem length_eq_three {α} {xs : List α} (h : xs.length = 3) : ∃ a b c, xs = [a, b, c] := by
  match xs, h with
  | [a, b, c], _ => exact ⟨a, b, c, rfl⟩

theorem all_zip_iff {α β} (f : α → β → Bool) (xs : List α) (ys : List β) :
    (xs.zip ys).all (fun p => f p.1 p.2) = true ↔ ∀ (i : Nat) (h₁ : i < xs.length) (h₂ : i < ys.length), f xs[i] ys[i] = true := by
  rw [List.all_eq_true]
  constructor
  · intro h i h₁ h₂
    exact h (xs[i], ys[i]) (by rw [List.mem_iff_getElem]; exact ⟨i, by rw [List.length_zip]; omega, by simp⟩)
  · intro h p hp
    obtain ⟨i, hi, rfl⟩ := List.mem_iff_getElem.mp hp
    simp only [List.getElem_zip]
    exact h i _ _

/-! ## `for` loops over a list, in `Id` -/

theorem forIn_list_inv {α β : Type} (l : List α) (f : α → β → Id (ForInStep β)) (P : β → Prop) (init : β)
    (h0 : P init) (hs : ∀ a ∈ l, ∀ b, P b → P (f a b).run.value) : P (forIn l init f).run := by
  induction l generalizing init with
  | nil => simpa using h0
  | cons a as ih =>
    rw [List.forIn_cons]
    have h1 := hs a (by simp) init h0
    simp only [Id.run_bind]
    cases hfa : (f a init).run with
    | done b => rw [hfa] at h1; simpa using h1
    | yield b =>
      rw [hfa] at h1
      exact ih b h1 (fun a' ha' => hs a' (by simp [ha']))

/-- a search loop whose body either returns a result satisfying `Q` or goes on, establishing `R` of the element it was
at: the loop returns such a result, or it falls through to the default `d` and `R` holds of every element -/
theorem forIn_first {α σ : Type} (l : List α) (f : α → Option σ × Unit → Id (ForInStep (Option σ × Unit)))
    (Q : σ → Prop) (R : α → Prop) (d r : σ)
    (h : (match (forIn l (none, ()) f).run.1 with | some r => r | none => d) = r)
    (hf : ∀ a b, (∃ r, (f a b).run = .done (some r, ()) ∧ Q r) ∨ ((f a b).run = .yield (none, ()) ∧ R a)) :
    Q r ∨ (r = d ∧ ∀ a ∈ l, R a) := by
  subst h
  induction l with
  | nil => exact Or.inr ⟨rfl, fun _ h => nomatch h⟩
  | cons a as ih =>
    rw [List.forIn_cons]
    simp only [Id.run_bind]
    rcases hf a (none, ()) with ⟨r, hr, hq⟩ | ⟨hy, hR⟩
    · rw [hr]; exact Or.inl hq
    · rw [hy]
      exact ih.imp_right fun ⟨h1, h2⟩ => ⟨h1, fun x hx => (List.mem_cons.mp hx).elim (fun e => e ▸ hR) (h2 x)⟩

end JL
