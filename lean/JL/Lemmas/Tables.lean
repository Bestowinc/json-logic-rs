import JL.Eval
/-!
# What `lookupOp` returns, in terms of the three operator tables

`findEntry` is `List.find?` on the key, so everything about it is a fact about `find?`. `lookupOp` asks the three tables in turn;
because no key occurs twice (`lookupOp_of_mem`, the one fact about the concrete tables that `lookupOp_iff` needs) its graph is exactly the union of the
tables, each entry tagged with the table it stands in (`lookupOp_iff`). The tables are regenerated from the source, so whatever is
said about the concrete rows is said by evaluating over the whole table, never by row position.
-/
namespace JL
open Json

theorem findEntry_eq_find? (k : Str) (es : List Entry) : findEntry k es = es.find? (·.key == k) := by
  induction es with
  | nil => rfl
  | cons e es ih => by_cases h : e.key = k <;> simp [findEntry, h, ih]

theorem findEntry_eq_some {k : Str} {es : List Entry} {e : Entry} (h : findEntry k es = some e) : e ∈ es ∧ e.key = k := by
  rw [findEntry_eq_find?] at h
  exact ⟨List.mem_of_find?_eq_some h, by simpa using List.find?_some h⟩

theorem findEntry_isSome (k : Str) (es : List Entry) : (findEntry k es).isSome = (es.map (·.key)).contains k := by
  rw [findEntry_eq_find?, Bool.eq_iff_iff]; simp

theorem findEntry_eq_none {k : Str} {es : List Entry} : findEntry k es = none ↔ k ∉ es.map (·.key) := by
  rw [findEntry_eq_find?]; simp

def tableOf : Kind → List Entry
  | .eager => Tables.eager
  | .lazy => Tables.lazy
  | .data => Tables.data

theorem lookupOp_eq_some {k : Str} {kind : Kind} {ar : Arity} (h : lookupOp k = some (kind, ar)) :
    ∃ e ∈ tableOf kind, e.key = k ∧ e.arity = ar := by
  unfold lookupOp at h
  repeat' split at h
  all_goals cases h
  all_goals exact ⟨_, (findEntry_eq_some ‹_›).1, (findEntry_eq_some ‹_›).2, rfl⟩

theorem lookupOp_isSome (k : Str) :
    (lookupOp k).isSome = ((Tables.eager ++ Tables.lazy ++ Tables.data).map (·.key)).contains k := by
  simp only [List.map_append, List.contains_append, ← findEntry_isSome]
  unfold lookupOp
  repeat' split
  all_goals simp [*]

/-- every entry is found under its key, with the kind of its table: no key occurs in two tables or twice in one -/
theorem lookupOp_of_mem {kind : Kind} {e : Entry} (h : e ∈ tableOf kind) : lookupOp e.key = some (kind, e.arity) := by
  revert e
  cases kind <;> decide +kernel

theorem lookupOp_iff {k : Str} {kind : Kind} {ar : Arity} :
    lookupOp k = some (kind, ar) ↔ ∃ e ∈ tableOf kind, e.key = k ∧ e.arity = ar :=
  ⟨lookupOp_eq_some, fun ⟨_, he, hk, ha⟩ => hk ▸ ha ▸ lookupOp_of_mem he⟩

theorem tableOf_subset (kind : Kind) : tableOf kind ⊆ Tables.eager ++ Tables.lazy ++ Tables.data := by
  cases kind <;> simp [tableOf]

/-- the keys of the lazy table, in the order of the branches of `run` (`if` and `?:` share one) -/
theorem lookupOp_lazy_key {k : Str} {ar : Arity} (h : lookupOp k = some (.lazy, ar)) :
    (k = "if".toList ∨ k = "?:".toList) ∨ k = "or".toList ∨ k = "and".toList ∨ k = "map".toList ∨ k = "filter".toList ∨
      k = "reduce".toList ∨ k = "all".toList ∨ k = "some".toList ∨ k = "none".toList := by
  obtain ⟨e, he, rfl, -⟩ := lookupOp_eq_some h
  clear h
  revert e
  decide +kernel

theorem lookupOp_data_key {k : Str} {ar : Arity} (h : lookupOp k = some (.data, ar)) :
    k = "var".toList ∨ k = "missing".toList ∨ k = "missing_some".toList := by
  obtain ⟨e, he, rfl, -⟩ := lookupOp_eq_some h
  clear h
  revert e
  decide +kernel

/-! ## the rows that proofs about single operators need, each read off its own table -/

theorem lookup_if : lookupOp "if".toList = some (.lazy, .any) := lookupOp_iff.mpr (by decide +kernel)
theorem lookup_tern : lookupOp "?:".toList = some (.lazy, .any) := lookupOp_iff.mpr (by decide +kernel)
theorem lookup_or : lookupOp "or".toList = some (.lazy, .atLeast 1) := lookupOp_iff.mpr (by decide +kernel)
theorem lookup_and : lookupOp "and".toList = some (.lazy, .atLeast 1) := lookupOp_iff.mpr (by decide +kernel)
theorem lookup_map : lookupOp "map".toList = some (.lazy, .exactly 2) := lookupOp_iff.mpr (by decide +kernel)
theorem lookup_filter : lookupOp "filter".toList = some (.lazy, .exactly 2) := lookupOp_iff.mpr (by decide +kernel)
theorem lookup_reduce : lookupOp "reduce".toList = some (.lazy, .exactly 3) := lookupOp_iff.mpr (by decide +kernel)
theorem lookup_all : lookupOp "all".toList = some (.lazy, .exactly 2) := lookupOp_iff.mpr (by decide +kernel)
theorem lookup_some : lookupOp "some".toList = some (.lazy, .exactly 2) := lookupOp_iff.mpr (by decide +kernel)
theorem lookup_none : lookupOp "none".toList = some (.lazy, .exactly 2) := lookupOp_iff.mpr (by decide +kernel)
theorem lookup_var : lookupOp "var".toList = some (.data, .variadic 0 3) := lookupOp_iff.mpr (by decide +kernel)
theorem lookup_missing : lookupOp "missing".toList = some (.data, .any) := lookupOp_iff.mpr (by decide +kernel)
theorem lookup_missing_some : lookupOp "missing_some".toList = some (.data, .exactly 2) := lookupOp_iff.mpr (by decide +kernel)
theorem lookup_not : lookupOp "!".toList = some (.eager, .unary) := lookupOp_iff.mpr (by decide +kernel)
theorem lookup_cat : lookupOp "cat".toList = some (.eager, .any) := lookupOp_iff.mpr (by decide +kernel)
theorem lookup_merge : lookupOp "merge".toList = some (.eager, .any) := lookupOp_iff.mpr (by decide +kernel)

end JL
