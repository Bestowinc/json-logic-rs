import JL.Rs
import JL.Lemmas.Json
import JL.Lemmas.Round
import JL.Lemmas.TieLoops
/-!
# Helper lemmas for the tie theorems `to_number_value`, `number_eq` (numeric literals, in-range casts) and `deep_eq`
-/
namespace JL.Lemmas.TieB
open JL

theorem list_fmap {α β : Type} (g : α → β) (l : List α) : g <$> l = l.map g := TieLoops.list_fmap g l

/-- `TieLoops.fold_map_opt` with the arguments in another order -/
theorem fold_opt_tie {α β γ : Type} (f : α → γ) (step : Option β → γ → Option β) (m : β → α → Option β)
    (h1 : ∀ c, step none c = none) (h2 : ∀ a v, step (some a) (f v) = m a v) (l : List α) (init : β) :
    Rs.fold (Rs.map l f) (some init) step = l.foldlM m init :=
  TieLoops.fold_map_opt m f step h1 h2 l init

/-! ## `to_number_value`: literals and in-range casts

The left-hand sides `1 * 2 ^ 1137`, … are the source's `f64` literals in the translator's spelling (`TieAuto`, rule 7). -/
theorem lit63 : (1 * 2 ^ 1137 : Nat) = 2 ^ 63 * F64.S := by decide +kernel
theorem lit64 : (1 * 2 ^ 1138 : Nat) = 2 ^ 64 * F64.S := by decide +kernel

theorem fract_eq_zero (x : F64) : Rs.eq (Rs.fract x) F64.zero = x.fractIsZero := by
  cases x <;> simp [rs, F64.eq, F64.zero, F64.fractIsZero]

theorem to_i64_eq_trunc (x : F64) (h1 : F64.ge x (F64.negate I64_LIMIT) = true) (h2 : F64.lt x I64_LIMIT = true) :
    Rs.to_i64 x = x.truncInt := by
  have hS := F64.S_pos
  cases x with
  | nan => simp [F64.lt] at h2
  | inf n => cases n <;> simp_all [F64.lt, F64.ge, F64.le, I64_LIMIT, F64.negate]
  | fin n k =>
    simp only [I64_LIMIT, F64.negate, F64.ge, F64.le, F64.lt] at h1 h2
    simp only [rs, F64.toI64Sat, F64.truncInt]
    -- `F64.S` (2^1074) becomes an opaque `S` with `hS : 0 < S` (so too in the two cast lemmas below): `simp` and `omega` bound
    -- `k / S` from `hS`, `h1`, `h2` and never see the literal
    generalize F64.S = S at *
    cases n
    · simp at h1 h2
      have : k / S < 2 ^ 63 := (Nat.div_lt_iff_lt_mul hS).2 (by omega)
      generalize k / S = q at *
      simp; omega
    · simp at h1 h2
      have : k / S ≤ 2 ^ 63 := Nat.div_le_of_le_mul (by rw [Nat.mul_comm]; omega)
      generalize k / S = q at *
      simp; omega

theorem to_u64_eq_trunc (x : F64) (h1 : F64.ge x I64_LIMIT = true) (h2 : F64.lt x U64_LIMIT = true) :
    Rs.to_u64 x = x.truncInt.toNat := by
  have hS := F64.S_pos
  cases x with
  | nan => simp [F64.lt] at h2
  | inf n => cases n <;> simp_all [F64.lt, F64.ge, F64.le, I64_LIMIT, U64_LIMIT]
  | fin n k =>
    simp only [I64_LIMIT, U64_LIMIT, F64.ge, F64.le, F64.lt] at h1 h2
    simp only [rs, F64.truncInt]
    generalize F64.S = S at *
    cases n
    · simp at h1 h2
      have : k / S < 2 ^ 64 := (Nat.div_lt_iff_lt_mul hS).2 (by omega)
      generalize k / S = q at *
      simp; omega
    · simp at h1 h2
      have : 0 < 2 ^ 63 * S := Nat.mul_pos (by decide) hS
      omega

theorem lim63 : F64.fin false (1 * 2 ^ 1137) = I64_LIMIT := by rw [lit63]; rfl
theorem lim64 : F64.fin false (1 * 2 ^ 1138) = U64_LIMIT := by rw [lit64]; rfl

/-! ## `number_eq`: the literal `1e30`, the in-range `as i128` -/
theorem lit1e30 : F64.fin false (3552713678800501 * 2 ^ 1122) = ArrOp.F1e30 := by decide +kernel
theorem lit1e30' : (3552713678800501 * 2 ^ 1122 : Nat) = (3552713678800501 * 2 ^ 48) * F64.S := by decide +kernel

theorem to_i128_eq_trunc (f : F64) (h : F64.lt f.abs ArrOp.F1e30 = true) : Rs.to_i128 f = f.truncInt := by
  have hS := F64.S_pos
  rw [← lit1e30, lit1e30'] at h
  cases f with
  | nan => simp [F64.lt, F64.abs] at h
  | inf n => simp [F64.lt, F64.abs] at h
  | fin n k =>
    simp only [F64.abs, F64.lt] at h
    simp only [Rs.to_i128, F64.truncInt]
    generalize F64.S = S at *
    simp at h
    have : k / S < 3552713678800501 * 2 ^ 48 := (Nat.div_lt_iff_lt_mul hS).2 (by omega)
    generalize k / S = q at *
    cases n <;> simp <;> omega

/-- `f as i128` behind any name (`simp` must not unfold `Rs.to_i128` on a symbolic float: it is generalised to `g` first) -/
theorem i128_exact (g : F64 → Int) (h128 : Rs.to_i128 = g) (f : F64)
    (c : (f.fractIsZero && F64.lt f.abs ArrOp.F1e30) = true) : g f = f.truncInt := by
  simp only [Bool.and_eq_true] at c
  rw [← h128]; exact to_i128_eq_trunc f c.2

/-! ## `deep_eq`

`JL/Tie/deep_eq.lean` rests on facts about the model (`Lemmas/Json`: the depth bounds, `deepEqList_eq`, `deepEqKvs_eq`) and on
`TieLoops.rs_loop_all_mem` for the loop of the code. The congruences here and `zip_all_tie` / `kvs_all_tie` after them are the same
comparison for a closure `P` given outright; no tie needs them as the code is written. -/
/-- `x.iter().all(P)` where `P` agrees with `Q` on the items of `x` -/
theorem rs_all_congr_mem {α : Type} (Q P : α → Bool) (x : List α) (h : ∀ a ∈ x, P a = Q a) : Rs.all x P = x.all Q :=
  TieLoops.all_mem_congr Q P x h
/-- `x.iter().zip(y.iter()).all(P)` where `P` agrees with `Q` on the pairs whose first component is an item of `x` -/
theorem rs_all_zip_congr {α β : Type} (Q P : α × β → Bool) (x : List α) (y : List β)
    (h : ∀ a ∈ x, ∀ b, P (a, b) = Q (a, b)) : Rs.all (Rs.zip x y) P = (x.zip y).all Q :=
  TieLoops.all_mem_congr Q P (x.zip y) fun (a, b) hab => h a (List.of_mem_zip hab).1 b

theorem zip_all_tie (P : Json × Json → Bool) : ∀ (x y : List Json), (∀ a ∈ x, ∀ b, P (a, b) = ArrOp.deepEq a b) →
    (Rs.eq (Rs.len x) (Rs.len y) && Rs.all (Rs.zip x y) P) = ArrOp.deepEqList x y := fun x y h => by
  rw [deepEqList_eq, ← rs_all_zip_congr _ P x y h]; rfl

theorem kvs_all_tie (P : Str × Json → Bool) (y : List (Str × Json)) : ∀ (x : List (Str × Json)),
    (∀ k a, (k, a) ∈ x → P (k, a) = Rs.map_or (Rs.get y k) false (fun b => ArrOp.deepEq a b)) →
    Rs.all x P = ArrOp.deepEqKvs x y := fun x h => by
  rw [deepEqKvs_eq]
  exact rs_all_congr_mem _ P x fun (k, a) hp => (h k a hp).trans (by unfold kvOk; cases hl : Json.lookup k y <;> simp [rs, hl])

end JL.Lemmas.TieB
