import JL.Lemmas.Monad
import JL.Lemmas.Tables
/-!
# Equations of `apply`, `check` and `run` that hold whatever the operator is

`run` is one 100-line `match` in a `mutual` block, and `check` recurses through `checkList`; everything else reasons through
the equations below (and through the per-operator ones of `Lemmas/C05`, `C13`, `C14`) and never unfolds them again.
-/
namespace JL
open Json

/-! ## `apply` = parse, then evaluate -/

theorem apply_of_check {r : Json} (h : check r = true) (d : Json) : apply r d = run r d := by
  simp [apply, h]

theorem apply_of_not_check {r : Json} (h : check r = false) (d : Json) : apply r d = M.err := by
  simp [apply, h]

/-- the way the lazy operators use an operand: parsed and evaluated when reached, then the fold goes on (the
specifications write `apply e d` as `ev d e` / `evElem d e`) -/
theorem apply_bind {β} (e d : Json) (f : Json → M β) :
    (apply e d >>= f) = if check e then run e d >>= f else M.err := by
  unfold apply; split <;> simp

/-! ## operand lists of eager and data operations -/

theorem runList_nil (d : Json) : runList [] d = ⟨[], .ok []⟩ := by rw [runList]; rfl
theorem runList_cons (x : Json) (xs : List Json) (d : Json) :
    runList (x :: xs) d = (run x d >>= fun v => runList xs d >>= fun vs => pure (v :: vs)) := by
  rw [runList]

theorem runList_eq_mapData (as : List Json) (d : Json) : runList as d = mapData (fun a => run a d) as := by
  induction as with
  | nil => exact runList_nil d
  | cons a as ih => rw [runList_cons, ih]; rfl

theorem checkList_iff (as : List Json) : checkList as = true ↔ ∀ a ∈ as, check a = true := by
  induction as with
  | nil => simp [checkList]
  | cons a as ih => simp [checkList, ih]

/-- the operand list of an operation: a bracketed list, or one bare operand (the unary sugar) -/
def operands : Json → List Json
  | .arr xs => xs
  | x => [x]

/-- `op_from_map`'s test of the operand: a bracketed list of an admitted length, or a bare operand where
the descriptor can accept one -/
def Arity.admits (ar : Arity) : Json → Bool
  | .arr xs => ar.isValidLen xs.length
  | _ => ar.canAcceptUnary && ar.isValidLen 1

@[simp] theorem operands_arr (xs : List Json) : operands (.arr xs) = xs := rfl

theorem operands_of_not_arr {x : Json} (hx : ∀ xs, x ≠ .arr xs) : operands x = [x] := by
  cases x <;> first | rfl | exact absurd rfl (hx _)
theorem Arity.admits_of_not_arr (ar : Arity) {x : Json} (hx : ∀ xs, x ≠ .arr xs) :
    ar.admits x = (ar.canAcceptUnary && ar.isValidLen 1) := by
  cases x <;> first | rfl | exact absurd rfl (hx _)

theorem Arity.admits_length {ar : Arity} {v : Json} (h : ar.admits v = true) : ar.isValidLen (operands v).length = true := by
  cases v <;> first | exact h | exact (Bool.and_eq_true _ _ ▸ h).2

theorem Arity.admits_exactly {n : Nat} {v : Json} (h : (Arity.exactly n).admits v = true) (hn : n ≠ 1) :
    ∃ xs, v = .arr xs ∧ xs.length = n := by
  cases v <;> first
    | exact ⟨_, rfl, by simpa [Arity.admits, Arity.isValidLen] using h⟩
    | simp [Arity.admits, Arity.canAcceptUnary, hn] at h

theorem runList_of_self (xs : List Json) (d : Json) (h : ∀ x ∈ xs, run x d = ⟨[], .ok x⟩) :
    runList xs d = ⟨[], .ok xs⟩ := by
  induction xs with
  | nil => exact runList_nil d
  | cons x xs ih => rw [runList_cons, h x List.mem_cons_self, ih fun y hy => h y (List.mem_cons_of_mem _ hy)]; rfl

/-! ## `check` and `run` by what `lookupOp` says of the key -/

theorem check_op {k : Str} {kind : Kind} {ar : Arity} (h : lookupOp k = some (kind, ar)) (v : Json) :
    check (.obj [(k, v)]) = (ar.admits v && (kind == .lazy || checkList (operands v))) := by
  conv => lhs; unfold check
  simp only [h]
  cases v <;> simp [Arity.admits, operands, checkList]

theorem check_lazy {k : Str} {ar : Arity} (h : lookupOp k = some (.lazy, ar)) (v : Json) :
    check (.obj [(k, v)]) = ar.admits v := by
  rw [check_op h]; exact Bool.and_true _

theorem check_strict {k : Str} {kind : Kind} {ar : Arity} (h : lookupOp k = some (kind, ar)) (hk : kind ≠ .lazy) {v : Json} :
    check (.obj [(k, v)]) = true ↔ ar.admits v = true ∧ checkList (operands v) = true := by
  rw [check_op h, Bool.and_eq_true]
  cases kind <;> first | rfl | exact absurd rfl hk

theorem check_unknown {k : Str} (h : lookupOp k = none) (v : Json) : check (.obj [(k, v)]) = true := by
  unfold check; simp only [h]

theorem run_unknown {k : Str} (h : lookupOp k = none) (v d : Json) :
    run (.obj [(k, v)]) d = ⟨[], .ok (.obj [(k, v)])⟩ := by
  unfold run; simp only [h]; rfl

theorem check_literal {r : Json} (h : ∀ k v, r ≠ .obj [(k, v)]) : check r = true := by
  unfold check
  split
  · exact absurd rfl (h _ _)
  · rfl

theorem run_literal {r : Json} (h : ∀ k v, r ≠ .obj [(k, v)]) (d : Json) : run r d = ⟨[], .ok r⟩ := by
  unfold run
  split
  · exact absurd rfl (h _ _)
  · rfl

theorem run_eager {k : Str} {ar : Arity} (hk : lookupOp k = some (.eager, ar)) (v d : Json) :
    run (.obj [(k, v)]) d = (runList (operands v) d >>= execEager k) := by
  conv => lhs; unfold run
  simp only [hk]
  cases v <;> simp [operands, runList_cons, runList_nil]

theorem run_data {k : Str} {ar : Arity} (hk : lookupOp k = some (.data, ar)) (v d : Json) :
    run (.obj [(k, v)]) d = (runList (operands v) d >>= execData k d) := by
  conv => lhs; unfold run
  simp only [hk]
  cases v <;> simp [operands, runList_cons, runList_nil]

theorem apply_eager {k : Str} {ar : Arity} (hk : lookupOp k = some (.eager, ar)) {v : Json}
    (hc : check (.obj [(k, v)]) = true) (d : Json) :
    apply (.obj [(k, v)]) d = runList (operands v) d >>= execEager k := by
  rw [apply_of_check hc, run_eager hk v d]

theorem apply_data {k : Str} {ar : Arity} (hk : lookupOp k = some (.data, ar)) {v : Json}
    (hc : check (.obj [(k, v)]) = true) (d : Json) :
    apply (.obj [(k, v)]) d = runList (operands v) d >>= execData k d := by
  rw [apply_of_check hc, run_data hk v d]

theorem apply_data_of_self {k : Str} {ar : Arity} (hk : lookupOp k = some (.data, ar)) (xs : List Json) (d : Json)
    (h : ∀ x ∈ xs, check x = true ∧ run x d = ⟨[], .ok x⟩) (hn : ar.isValidLen xs.length = true) :
    apply (.obj [(k, .arr xs)]) d = execData k d xs := by
  have hc : check (.obj [(k, .arr xs)]) = true :=
    (check_strict hk (by decide)).2 ⟨hn, (checkList_iff xs).2 fun x hx => (h x hx).1⟩
  rw [apply_data hk hc, operands, runList_of_self xs d fun x hx => (h x hx).2]
  exact M.pure_bind xs _

/-- what decides the chain of key tests in the lazy branch of `run`, for a key given by `hk : k = "…".toList`:
rewritten with `hk` the tests are between string literals, which `simp` settles without evaluating `String.toList`
(`subst hk` would evaluate it once) -/
macro "lazy_key " hk:ident " with " hl:term : tactic => `(tactic|
  simp only [$hk:ident, $hl:term, String.toList_inj, String.reduceEq, Bool.or_self, decide_false, decide_true,
    Bool.false_eq_true, ↓reduceIte])

/-! ## induction over rules

The sub-rules of `{k: v}` are the operands and (first operand of `all`/`some`/`none`, when it is a bracketed list) their
elements; all are smaller in `sizeOf`. -/

theorem sizeOf_lt_operand (k : Str) (v : Json) : sizeOf v < sizeOf (Json.obj [(k, v)]) := by
  simp only [Json.obj.sizeOf_spec, List.cons.sizeOf_spec, Prod.mk.sizeOf_spec, List.nil.sizeOf_spec]
  omega

theorem sizeOf_lt_elem {x : Json} {xs : List Json} (h : x ∈ xs) : sizeOf x < sizeOf (Json.arr xs) := by
  have := List.sizeOf_lt_of_mem h
  simp only [Json.arr.sizeOf_spec]
  omega

theorem sizeOf_lt_operands (k : Str) {v x : Json} (h : x ∈ operands v) : sizeOf x < sizeOf (Json.obj [(k, v)]) := by
  cases v with
  | arr xs => exact Nat.lt_trans (sizeOf_lt_elem h) (sizeOf_lt_operand k _)
  | _ => cases List.mem_singleton.mp h; exact sizeOf_lt_operand k _

theorem rule_cases {motive : Json → Prop}
    (literal : ∀ r, (∀ k v, r ≠ .obj [(k, v)]) → motive r)
    (unknown : ∀ k v, lookupOp k = none → motive (.obj [(k, v)]))
    (op : ∀ k v kind ar, lookupOp k = some (kind, ar) → (∀ x ∈ operands v, motive x) →
      (∀ xs, .arr xs ∈ operands v → ∀ x ∈ xs, motive x) → motive (.obj [(k, v)])) (r : Json) : motive r := by
  induction r using (measure (sizeOf : Json → Nat)).wf.induction with | h r ih => ?_
  by_cases hshape : ∃ k v, r = .obj [(k, v)]
  · obtain ⟨k, v, rfl⟩ := hshape
    cases hl : lookupOp k with
    | none => exact unknown k v hl
    | some p =>
      exact op k v p.1 p.2 hl (fun x hx => ih x (sizeOf_lt_operands k hx)) fun xs hxs x hx =>
        ih x (Nat.lt_trans (sizeOf_lt_elem hx) (sizeOf_lt_operands k hxs))
  · exact literal r fun k v h => hshape ⟨k, v, h⟩

end JL
