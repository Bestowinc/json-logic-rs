import JL.Eval
import JL.Lemmas.List
/-!
# The writer/outcome monad `M`

Simp lemmas, the monad laws, inversion of `>>=`, and the one notion of "postcondition" (`M.Post`) of which
"never panics" (`M.NoPanic`) and "builds well-formed values" (`Post False WfV WfV`, `Lemmas/C01Wf`) are instances.
-/
namespace JL
namespace M

@[simp] theorem pure_logs {α} (a : α) : (Pure.pure a : M α).logs = [] := rfl
@[simp] theorem pure_out {α} (a : α) : (Pure.pure a : M α).out = .ok a := rfl
@[simp] theorem pure_def {α} (a : α) : (Pure.pure a : M α) = ⟨[], .ok a⟩ := rfl
@[simp] theorem mpure_def {α} (a : α) : (M.pure a : M α) = ⟨[], .ok a⟩ := rfl
@[simp] theorem err_def {α} : (M.err : M α) = ⟨[], .err⟩ := rfl
@[simp] theorem panic_def {α} : (M.panic : M α) = ⟨[], .panic⟩ := rfl
theorem bind_def {α β} (x : M α) (f : α → M β) : (x >>= f) = M.bind x f := rfl

@[simp] theorem bind_ok {α β} (l : List Json) (a : α) (f : α → M β) :
    ((⟨l, .ok a⟩ : M α) >>= f) = ⟨l ++ (f a).logs, (f a).out⟩ := rfl
@[simp] theorem bind_err {α β} (l : List Json) (f : α → M β) :
    ((⟨l, .err⟩ : M α) >>= f) = ⟨l, .err⟩ := rfl
@[simp] theorem bind_panic {α β} (l : List Json) (f : α → M β) :
    ((⟨l, .panic⟩ : M α) >>= f) = ⟨l, .panic⟩ := rfl

@[simp] theorem ofOption_some {α} (a : α) : M.ofOption (some a) = ⟨[], .ok a⟩ := rfl
@[simp] theorem ofOption_none {α} : (M.ofOption none : M α) = ⟨[], .err⟩ := rfl
theorem ofOption_logs {α} (o : Option α) : (M.ofOption o).logs = [] := by cases o <;> rfl

theorem ext {α} {x y : M α} (h1 : x.logs = y.logs) (h2 : x.out = y.out) : x = y := by
  cases x; cases y; simp_all

theorem mk_eta {α} (x : M α) : (⟨x.logs, x.out⟩ : M α) = x := rfl

@[simp] theorem pure_bind {α β} (a : α) (f : α → M β) : ((Pure.pure a : M α) >>= f) = f a :=
  ext (List.nil_append _) rfl

@[simp] theorem bind_pure {α} (x : M α) : (x >>= fun a => (Pure.pure a : M α)) = x := by
  obtain ⟨l, _ | _ | _⟩ := x <;> simp

/-- `bind_pure` in the form it takes once `pure_def` has fired -/
theorem bind_mk_pure {α} (x : M α) : (x >>= fun a => (⟨[], .ok a⟩ : M α)) = x := bind_pure x

theorem bind_assoc {α β γ} (x : M α) (f : α → M β) (g : β → M γ) :
    (x >>= f >>= g) = (x >>= fun a => f a >>= g) := by
  obtain ⟨l, a | _ | _⟩ := x
  · rcases h : f a with ⟨l', b | _ | _⟩ <;> simp [h]
  · rfl
  · rfl

/-- `M` satisfies the monad laws (so the library lemmas about `List.mapM`, `List.foldlM` apply to it) -/
instance lawful : LawfulMonad M := LawfulMonad.mk' M
  (id_map := fun x => bind_pure x)
  (pure_bind := fun a f => M.pure_bind a f)
  (bind_assoc := fun x f g => M.bind_assoc x f g)

/-! ## `>>=` by the outcome of its first part -/

theorem bind_logs_of_ok {α β} {x : M α} {f : α → M β} {a : α} (h : x.out = .ok a) :
    (x >>= f).logs = x.logs ++ (f a).logs := by
  cases x with | mk l o => simp only at h; subst h; rfl
theorem bind_out_of_ok {α β} {x : M α} {f : α → M β} {a : α} (h : x.out = .ok a) :
    (x >>= f).out = (f a).out := by
  cases x with | mk l o => simp only at h; subst h; rfl
theorem bind_of_ok {α β} {x : M α} {f : α → M β} {a : α} (h : x.out = .ok a) :
    (x >>= f) = ⟨x.logs ++ (f a).logs, (f a).out⟩ :=
  ext (bind_logs_of_ok h) (bind_out_of_ok h)
theorem bind_of_err {α β} {x : M α} {f : α → M β} (h : x.out = .err) : (x >>= f) = ⟨x.logs, .err⟩ := by
  cases x with | mk l o => simp only at h; subst h; rfl
theorem bind_of_panic {α β} {x : M α} {f : α → M β} (h : x.out = .panic) : (x >>= f) = ⟨x.logs, .panic⟩ := by
  cases x with | mk l o => simp only at h; subst h; rfl

theorem bind_congr {α β} {x : M α} {f g : α → M β} (h : ∀ a, x.out = .ok a → f a = g a) : (x >>= f) = (x >>= g) := by
  obtain ⟨l, a | _ | _⟩ := x
  · simp [h a rfl]
  · rfl
  · rfl

theorem bind_of_not_ok {α} {x : M α} {f : α → M α} (h : ∀ a, x.out ≠ .ok a) : (x >>= f) = x := by
  obtain ⟨l, a | _ | _⟩ := x
  · exact absurd rfl (h a)
  · rfl
  · rfl

theorem bind_eq_ok {α β} {x : M α} {f : α → M β} {l : List Json} {b : β} :
    (x >>= f) = ⟨l, .ok b⟩ ↔ ∃ l₁ a l₂, x = ⟨l₁, .ok a⟩ ∧ f a = ⟨l₂, .ok b⟩ ∧ l = l₁ ++ l₂ := by
  obtain ⟨lx, a | _ | _⟩ := x
  · constructor
    · intro h
      injection h with h1 h2
      exact ⟨lx, a, (f a).logs, rfl, by rw [← h2], h1.symm⟩
    · rintro ⟨l₁, a', l₂, h1, h2, rfl⟩
      cases h1
      simp [h2]
  · simp
  · simp

theorem pure_eq_ok {α} {a b : α} {l : List Json} : (Pure.pure a : M α) = ⟨l, .ok b⟩ ↔ l = [] ∧ a = b := by
  simp [eq_comm]

theorem ofOption_eq_ok {α} {o : Option α} {b : α} {l : List Json} :
    (M.ofOption o : M α) = ⟨l, .ok b⟩ ↔ l = [] ∧ o = some b := by
  cases o <;> simp [eq_comm]

theorem bind_bind_pure_eq_ok {α β γ} {x : M α} {y : M β} {g : α → β → γ} {l : List Json} {c : γ} :
    (x >>= fun a => y >>= fun b => (Pure.pure (g a b) : M γ)) = ⟨l, .ok c⟩ ↔
      ∃ l₁ a l₂ b, x = ⟨l₁, .ok a⟩ ∧ y = ⟨l₂, .ok b⟩ ∧ c = g a b ∧ l = l₁ ++ l₂ := by
  simp only [bind_eq_ok, pure_eq_ok]
  constructor
  · rintro ⟨l₁, a, _, h1, ⟨l₂, b, _, h2, ⟨rfl, rfl⟩, rfl⟩, rfl⟩
    exact ⟨l₁, a, l₂, b, h1, h2, rfl, by simp⟩
  · rintro ⟨l₁, a, l₂, b, h1, h2, rfl, rfl⟩
    exact ⟨l₁, a, l₂, h1, ⟨l₂, b, [], h2, ⟨rfl, rfl⟩, by simp⟩, rfl⟩

/-! ## postconditions -/

/-- `x` meets a postcondition: a value it produces satisfies `P`, every line it logs satisfies `L` (whatever
the outcome), and — when `np` holds — the outcome is not a panic. -/
def Post {α} (np : Prop) (L : Json → Prop) (P : α → Prop) (x : M α) : Prop :=
  (np → x.out ≠ .panic) ∧ (∀ a, x.out = .ok a → P a) ∧ ∀ l ∈ x.logs, L l

section Post
variable {α β : Type} {np : Prop} {L : Json → Prop} {P : α → Prop} {Q : β → Prop}

theorem post_pure {a : α} (h : P a) : Post np L P (Pure.pure a) :=
  ⟨fun _ => by simp, fun b hb => by cases hb; exact h, by simp⟩

theorem post_err : Post np L P (M.err : M α) := ⟨fun _ => by simp, by simp, by simp⟩

theorem post_panic (h : ¬ np) : Post np L P (M.panic : M α) := ⟨fun hn => absurd hn h, by simp, by simp⟩

theorem post_trivial {x : M α} : Post False (fun _ => True) (fun _ => True) x :=
  ⟨False.elim, fun _ _ => trivial, fun _ _ => trivial⟩

theorem post_mono {P' : α → Prop} {x : M α} (h : ∀ a, P a → P' a) (hx : Post np L P x) : Post np L P' x :=
  ⟨hx.1, fun a ha => h a (hx.2.1 a ha), hx.2.2⟩

/-- the continuation is only asked about values that satisfy the postcondition of the first part -/
theorem post_bind {x : M α} {f : α → M β} (hx : Post np L P x) (hf : ∀ a, P a → Post np L Q (f a)) :
    Post np L Q (x >>= f) := by
  obtain ⟨l, a | _ | _⟩ := x
  · have hfa := hf a (hx.2.1 a rfl)
    refine ⟨hfa.1, hfa.2.1, fun l' hl' => ?_⟩
    rcases List.mem_append.mp hl' with h | h
    · exact hx.2.2 _ h
    · exact hfa.2.2 _ h
  · exact ⟨fun _ => by simp, by simp, hx.2.2⟩
  · exact ⟨fun h => absurd rfl (hx.1 h), by simp, hx.2.2⟩

theorem post_ite {c : Prop} [Decidable c] {x y : M α} (hx : c → Post np L P x) (hy : ¬ c → Post np L P y) :
    Post np L P (if c then x else y) :=
  ite_intro hx hy

theorem logs_nil_of_post {x : M α} (h : Post np (fun _ => False) P x) : x.logs = [] :=
  List.eq_nil_iff_forall_not_mem.mpr h.2.2

theorem post_ofOption {o : Option α} (h : ∀ a, o = some a → P a) : Post np L P (M.ofOption o) := by
  cases o with
  | none => exact post_err
  | some a => exact post_pure (h a rfl)

end Post

def NoPanic {α} (x : M α) : Prop := x.out ≠ .panic

theorem noPanic_iff_post {α} {x : M α} : NoPanic x ↔ Post True (fun _ => True) (fun _ => True) x :=
  ⟨fun h => ⟨fun _ => h, fun _ _ => trivial, fun _ _ => trivial⟩, fun h => h.1 trivial⟩

theorem noPanic_pure {α} (a : α) : NoPanic (Pure.pure a : M α) := by simp [NoPanic]
theorem noPanic_err {α} : NoPanic (M.err : M α) := by simp [NoPanic]
theorem noPanic_ofOption {α} (o : Option α) : NoPanic (M.ofOption o) := by cases o <;> exact nofun
theorem noPanic_bind {α β} {x : M α} {f : α → M β} (hx : NoPanic x) (hf : ∀ a, NoPanic (f a)) : NoPanic (x >>= f) :=
  noPanic_iff_post.2 (post_bind (noPanic_iff_post.1 hx) fun a _ => noPanic_iff_post.1 (hf a))

end M
end JL
