import JL.Lemmas.C07
import JL.Lemmas.F64Order
/-!
# Lemmas for C09: the spec's Number::lessThan is the model's `F64.lt`; `<=` of the standard
(`not (b < a)`, undefined ↦ false) is `F64.le`; the standard's `<` and `<=` have the shape `primRel`;
"the converted operands are ≤". Then the crate's side: `abstract_lt/gt/lte` share one body (`relBody`), and
`relBody_es` identifies the two shapes for every pair of relations (so for `<`, `<=` and the core of `==`).
-/
namespace JL.Lemmas.C09
open JL JL.Spec.ES JL.Lemmas.F64Order JL.Lemmas.C07

/-- 6.1.6.1.12 Number::lessThan, written as the standard's step list: undefined iff an operand is NaN,
otherwise IEEE `<` of the model -/
theorem numberLessThan_eq (x y : F64) :
    numberLessThan x y = if x.isNaN || y.isNaN then none else some (F64.lt x y) := by
  cases x with
  | nan => rfl
  | inf a =>
    cases y with
    | nan => rfl
    | inf b => cases a <;> cases b <;> rfl
    | fin b k => cases a <;> rfl
  | fin a j =>
    cases y with
    | nan => rfl
    | inf b => cases j <;> cases b <;> rfl
    | fin b k =>
      -- steps 3 and 4, 5 answer `false` where ℝ(x) < ℝ(y) is false anyway; steps 6 to 9 do not apply
      show _ = some (decide (mathValue a j < mathValue b k))
      simp only [numberLessThan, F64.isNaN, isZero_fin, reduceCtorEq, Bool.false_eq_true, ↓reduceIte, F64.fin.injEq,
        Bool.and_eq_true, beq_iff_eq]
      split
      · next h => rw [h.1, h.2, decide_eq_false (Int.lt_irrefl _)]
      · split
        · next h => rw [h.1, h.2]; cases a <;> cases b <;> rfl
        · rfl

theorem undefinedIsFalse_some (r : Bool) : undefinedIsFalse (some r) = r := rfl
theorem falseIsTrue_some (r : Bool) : falseIsTrue (some r) = !r := by cases r <;> rfl

/-- `<`: undefined ↦ false -/
theorem undefinedIsFalse_numberLessThan (x y : F64) : undefinedIsFalse (numberLessThan x y) = F64.lt x y := by
  rw [numberLessThan_eq]
  cases x <;> cases y <;> rfl

/-- `x <= y` of the standard — `not (y < x)`, false when undefined — is IEEE `<=` -/
theorem falseIsTrue_numberLessThan (x y : F64) : falseIsTrue (numberLessThan y x) = F64.le x y := by
  rw [numberLessThan_eq]
  -- a NaN operand (5 of the 9 cases): both sides are `false` by `rfl`; otherwise `<=` is the negation of the
  -- flipped `<` (`le_eq_not_lt`, which needs both operands non-NaN)
  cases x <;> cases y <;> first | rfl | exact (falseIsTrue_some _).trans (le_eq_not_lt _ _ rfl rfl).symm

/-- ≤ on Numbers as extended reals (declarative) is IEEE `<=` -/
theorem numLe_iff (x y : F64) : NumLe x y ↔ F64.le x y = true := by
  constructor
  · intro h
    cases h <;> first | rfl | exact decide_eq_true ‹_›
  · intro h
    match x, y, h with
    | .inf true, .fin _ _, _ => exact .negInf_fin _ _
    | .inf true, .inf _, _ => exact .negInf_inf _
    | .fin _ _, .inf false, _ => exact .fin_posInf _ _
    | .inf false, .inf false, _ => exact .posInf_posInf
    | .fin _ _, .fin _ _, h => exact .fin_fin _ _ _ _ (of_decide_eq_true h)

/-! ## the standard's relational operators have the shape `primRel` -/

/-- `a < b`: IsLessThan, undefined ↦ false -/
theorem lessThan_eq (s2n) (a b : Json) : lessThan s2n a b = primRel s2n strLt F64.lt (ofJson a) (ofJson b) := by
  show undefinedIsFalse (primRel s2n (fun s t => some (strLt s t)) numberLessThan _ _) = _
  rw [map_primRel s2n undefinedIsFalse]
  simp only [undefinedIsFalse_numberLessThan, undefinedIsFalse_some]

/-- `a <= b`: IsLessThan with the operands exchanged, true and undefined ↦ false -/
theorem lessEq_eq (s2n) (a b : Json) : lessEq s2n a b = primRel s2n strLe F64.le (ofJson a) (ofJson b) := by
  show falseIsTrue (primRel s2n (fun s t => some (strLt s t)) numberLessThan _ _) = _
  rw [primRel_flip, map_primRel s2n falseIsTrue]
  simp only [falseIsTrue_numberLessThan, falseIsTrue_some]
  rfl

theorem greaterThan_flip (s2n) (a b : Json) : greaterThan s2n a b = lessThan s2n b a := rfl
theorem greaterEq_flip (s2n) (a b : Json) : greaterEq s2n a b = lessEq s2n b a := rfl

/-- the operands after ToPrimitive are both strings -/
def BothStrings (a b : Json) : Prop := ∃ s t, toPrimitive a = .string s ∧ toPrimitive b = .string t

theorem BothStrings.symm {a b : Json} : BothStrings a b → BothStrings b a := fun ⟨s, t, ha, hb⟩ => ⟨t, s, hb, ha⟩

theorem toPrimitive_ne_object (a : Json) (j : Json) : toPrimitive a ≠ .object j := by
  cases a <;> simp [toPrimitive, ofJson, Val.toPrimitive]

/-- operands that are not both strings: ToNumber both, NaN ⇒ false, else the numeric relation -/
theorem primRel_optRel {s2n} {sr} {nr : F64 → F64 → Bool} (hn : ∀ x, nr .nan x = false ∧ nr x .nan = false)
    {a b : Json} (h : ¬ BothStrings a b) :
    primRel s2n sr nr (ofJson a) (ofJson b) = optRel nr (toNumber s2n a) (toNumber s2n b) := by
  rw [primRel_numbers h, toNumber_ofJson, toNumber_ofJson]
  cases toNumber s2n a <;> cases toNumber s2n b <;> simp only [optNumber, optRel, hn]

theorem lt_nan (x : F64) : F64.lt .nan x = false ∧ F64.lt x .nan = false := ⟨(nan_left x).1, (nan_right x).1⟩
theorem le_nan (x : F64) : F64.le .nan x = false ∧ F64.le x .nan = false := ⟨(nan_left x).2.1, (nan_right x).2.1⟩
theorem eq_nan (x : F64) : F64.eq .nan x = false ∧ F64.eq x .nan = false := ⟨(nan_left x).2.2.1, (nan_right x).2.2.1⟩

theorem optRel_none_left (r : F64 → F64 → Bool) (p : Option F64) : optRel r none p = false := rfl
theorem optRel_none_right (r : F64 → F64 → Bool) (o : Option F64) : optRel r o none = false := by cases o <;> rfl

theorem optRel_eq_true {r : F64 → F64 → Bool} {o p : Option F64} :
    optRel r o p = true ↔ ∃ x y, o = some x ∧ p = some y ∧ r x y = true := by
  cases o <;> cases p <;> simp [optRel]

/-- the standard's `a <= b` holds exactly when the converted operands are ≤ -/
theorem lessEq_iff_convLe (s2n) (a b : Json) : lessEq s2n a b = true ↔ ConvLe s2n a b := by
  rw [lessEq_eq]
  by_cases hs : BothStrings a b
  · obtain ⟨s, t, ha, hb⟩ := hs
    rw [primRel_strings ha hb, strLe_iff]
    refine ⟨.strings ha hb, fun h => ?_⟩
    cases h with
    | strings ha' hb' hle => cases ha.symm.trans ha'; cases hb.symm.trans hb'; exact hle
    | numbers hn _ _ _ => exact absurd ⟨s, t, ha, hb⟩ hn
  · rw [primRel_optRel le_nan hs, optRel_eq_true]
    refine ⟨fun ⟨x, y, hx, hy, h⟩ => .numbers hs hx hy ((numLe_iff x y).2 h), fun h => ?_⟩
    cases h with
    | strings ha hb _ => exact absurd ⟨_, _, ha, hb⟩ hs
    | numbers _ hx hy hle => exact ⟨_, _, hx, hy, (numLe_iff _ _).1 hle⟩

/-- on the standard itself, whatever StringToNumber is: `<` implies `<=`, and so does `==` -/
theorem lessEq_of_lessThan (s2n) (a b : Json) (h : lessThan s2n a b = true) : lessEq s2n a b = true := by
  rw [lessThan_eq] at h
  rw [lessEq_eq]
  exact primRel_mono (fun s t h => (strLe_iff s t).2 (.inl h)) le_of_lt _ _ h
theorem lessEq_of_looselyEqual (s2n) (a b : Json) (h : looselyEqual s2n a b = true) : lessEq s2n a b = true := by
  rw [looselyEqual_eq, Bool.and_eq_true] at h
  rw [lessEq_eq]
  exact primRel_mono (fun s t e => (strLe_iff s t).2 (.inr (of_decide_eq_true e))) le_of_eq _ _ h.2

/-! ## the crate's comparisons have the same shape -/

/-- the body shared by `abstract_lt`, `abstract_gt` and `abstract_lte`, as a function of the two primitives -/
def relBody (sr : Str → Str → Bool) (nr : F64 → F64 → Bool) : JsOp.Primitive → JsOp.Primitive → Bool
  | .string f, .string s => sr f s
  | .number f, .number s => nr f s
  | .string f, .number s => match JsOp.strToNumber f with | some f => nr f s | none => false
  | .number f, .string s => match JsOp.strToNumber s with | some s => nr f s | none => false

theorem abstractLt_eq (a b : Json) :
    JsOp.abstractLt a b = relBody strLt F64.lt (JsOp.toPrimitive a) (JsOp.toPrimitive b) := by rfl
theorem abstractLte_eq (a b : Json) :
    JsOp.abstractLte a b = relBody strLe F64.le (JsOp.toPrimitive a) (JsOp.toPrimitive b) := by rfl
theorem abstractGt_eq (a b : Json) :
    JsOp.abstractGt a b = relBody (fun f s => strLt s f) (fun f s => F64.lt s f) (JsOp.toPrimitive a) (JsOp.toPrimitive b) := by rfl

theorem relBody_flip (sr nr) (p q : JsOp.Primitive) :
    relBody sr nr p q = relBody (fun s t => sr t s) (fun a b => nr b a) q p := by
  cases p <;> cases q <;> rfl

theorem toNumber_es (v : Json) : JsOp.toNumber v = toNumber JsOp.strToNumber v := by
  cases v with
  | bool b => cases b <;> rfl
  | _ => rfl

theorem toPrimitive_string_iff (a : Json) (s : Str) : JsOp.toPrimitive a = .string s ↔ toPrimitive a = .string s := by
  cases a <;> simp [JsOp.toPrimitive, JsOp.toPrimitiveNumber, toPrimitive, ofJson, Val.toPrimitive, toString_str]

/-- crate = standard for every comparison of this shape whose numeric relation is false on NaN -/
theorem relBody_es {sr} {nr} (hn : ∀ x, nr .nan x = false ∧ nr x .nan = false) (a b : Json) :
    relBody sr nr (JsOp.toPrimitive a) (JsOp.toPrimitive b) = primRel JsOp.strToNumber sr nr (ofJson a) (ofJson b) := by
  by_cases h : BothStrings a b
  · obtain ⟨s, t, ha, hb⟩ := h
    rw [primRel_strings ha hb, (toPrimitive_string_iff a s).2 ha, (toPrimitive_string_iff b t).2 hb]
    rfl
  · rw [primRel_optRel hn h, ← toNumber_es, ← toNumber_es]
    unfold JsOp.toNumber
    cases ha : JsOp.toPrimitive a <;> cases hb : JsOp.toPrimitive b
    · exact absurd ⟨_, _, (toPrimitive_string_iff a _).1 ha, (toPrimitive_string_iff b _).1 hb⟩ h
    · next s x => simp only [relBody]; cases JsOp.strToNumber s <;> rfl
    · next x s => simp only [relBody]; cases JsOp.strToNumber s <;> rfl
    · rfl

end JL.Lemmas.C09
