import JL.Lemmas.StrNum
import JL.Lemmas.IEEE
/-!
# `radix_literal` (`0x…`, `0o…`, `0b…`) computes the correctly rounded value of the integer literal

The model keeps the leading 60+ bits of the literal exactly, counts the bits shifted out and ORs a
sticky bit into the kept part; the result is `ofNat (acc | sticky) * 2^shift`. This file proves that this
is the exact integer rounded once to nearest-even (`F64.roundUnits false (n * S) 1`).

The rounding argument rests on one fact, `rmAt_sticky`: rounding at a bit position sees the bits far enough
below it only through whether they are all zero. Scaling by a power of two (`rm_scale`) and the model's sticky
bit (`rm_or_one`) are its two uses. That the rounded integer `rm q` is the nearest grid point (`Lemmas/IEEE`) gives
the rest: it does not cross a power of two (`rm_bounds`), and, having at most 53 significant bits, it is not rounded
again (`rm_rm`), which makes the model's second rounding (`ofNat`, then the product) harmless.
-/
namespace JL.Lemmas.StrNum
open JL JL.JsOp JL.Spec

/-! ## the digit loop of `radix_literal` -/

/-- what the loop state `(acc, shift, sticky)` knows about the exact value `v` read so far -/
def LoopInv (st : Nat × Nat × Bool) (v : Nat) : Prop :=
  ∃ low, v = st.1 * 2 ^ st.2.1 + low ∧ low < 2 ^ st.2.1 ∧ (st.2.2 = true ↔ low ≠ 0) ∧
    (0 < st.2.1 → 2 ^ 60 ≤ st.1) ∧ st.1 < 2 ^ 64

/-- one step of `radixLoop` (`radixLoop_cons`): below `2^60` the digit is appended; from then on it is only counted
(`shift`) and ORed into `sticky` -/
def radixStep (bits : Nat) (st : Nat × Nat × Bool) (d : Nat) : Nat × Nat × Bool :=
  if st.1 / 2 ^ 60 = 0 then (st.1 * 2 ^ bits + d, st.2.1, st.2.2) else (st.1, st.2.1 + bits, st.2.2 || d != 0)

theorem radixLoop_cons (radix bits : Nat) (c : Char) (cs : Str) (st : Nat × Nat × Bool) :
    radixLoop radix bits (c :: cs) st =
      match toDigit radix c with
      | none => none
      | some d => radixLoop radix bits cs (radixStep bits st d) := by
  obtain ⟨acc, shift, sticky⟩ := st
  simp only [radixLoop, radixStep]
  cases toDigit radix c with
  | none => rfl
  | some d => simp only []; split <;> rfl

theorem loopInv_step (bits : Nat) (hb : bits ≤ 4) (st : Nat × Nat × Bool) (v d : Nat)
    (hd : d < 2 ^ bits) (h : LoopInv st v) : LoopInv (radixStep bits st d) (v * 2 ^ bits + d) := by
  obtain ⟨acc, shift, sticky⟩ := st
  obtain ⟨low, hv, hlow, hst, hacc, hlt⟩ := h
  simp only at hv hlow hst hacc hlt
  have hp : 0 < 2 ^ bits := Nat.two_pow_pos bits
  unfold radixStep
  split
  · -- nothing has been shifted out yet: the new digit is appended exactly
    rename_i hsmall
    have hacc60 : acc < 2 ^ 60 := (Nat.div_eq_zero_iff.mp hsmall).resolve_left (by decide)
    have hs0 : shift = 0 := Nat.eq_zero_of_not_pos fun h => by have := hacc h; omega
    subst hs0
    have hlow0 : low = 0 := by simpa using hlow
    subst hlow0
    refine ⟨0, by simp [hv], by simp, by simpa using hst, by simp, ?_⟩
    have h1 : (acc + 1) * 2 ^ bits ≤ 2 ^ 60 * 2 ^ 4 :=
      Nat.mul_le_mul hacc60 (Nat.pow_le_pow_right (by decide) hb)
    rw [Nat.add_mul] at h1
    simp only
    omega
  · -- the digit goes below the kept part
    rename_i hsmall
    have hacc60 : 2 ^ 60 ≤ acc := Nat.le_of_not_lt fun h => hsmall (Nat.div_eq_of_lt h)
    refine ⟨low * 2 ^ bits + d, ?_, ?_, ?_, fun _ => hacc60, hlt⟩
    · simp only [hv, Nat.pow_add, Nat.add_mul, Nat.mul_assoc, Nat.add_assoc]
    · have h2 : (low + 1) * 2 ^ bits ≤ 2 ^ shift * 2 ^ bits := Nat.mul_le_mul_right _ hlow
      rw [Nat.add_mul] at h2
      simp only [Nat.pow_add]
      omega
    · have : low * 2 ^ bits = 0 ↔ low = 0 := by simp [Nat.mul_eq_zero]
      simp only [Bool.or_eq_true, bne_iff_ne, ne_eq, hst]
      omega

theorem mv_foldl (radix : Nat) (v : Nat) (ds : List Nat) :
    ds.foldl (fun a d => a * radix + d) v = v * radix ^ ds.length + ES.mv radix ds := by
  unfold ES.mv
  induction ds generalizing v with
  | nil => simp
  | cons d ds ih =>
    simp only [List.foldl_cons, List.length_cons]
    rw [ih, ih (0 * radix + d)]
    simp [Nat.pow_succ, Nat.add_mul, Nat.mul_assoc, Nat.add_assoc, Nat.mul_comm radix]

/-- the loop fails exactly where the grammar's digit reader does, and otherwise keeps the invariant -/
theorem radixLoop_spec (radix bits : Nat) (hb : bits ≤ 4) (hr : radix = 2 ^ bits) (cs : Str) :
    ∀ (st : Nat × Nat × Bool) (v : Nat), LoopInv st v →
      (radixLoop radix bits cs st = none ∧ ES.digitsOnly (toDigit radix) cs = none) ∨
      ∃ st' ds, radixLoop radix bits cs st = some st' ∧ ES.digitsOnly (toDigit radix) cs = some ds ∧
        LoopInv st' (ds.foldl (fun a d => a * radix + d) v) := by
  induction cs with
  | nil => exact fun st v h => Or.inr ⟨st, [], by simp [radixLoop], rfl, h⟩
  | cons c cs ih =>
    intro st v h
    rw [radixLoop_cons]
    simp only [ES.digitsOnly]
    cases hd : toDigit radix c with
    | none => exact Or.inl ⟨rfl, rfl⟩
    | some d =>
      have hstep := loopInv_step bits hb st v d (hr ▸ toDigit_lt hd) h
      rw [← hr] at hstep
      rcases ih _ _ hstep with ⟨h1, h2⟩ | ⟨st', ds, h1, h2, h3⟩
      · exact Or.inl ⟨h1, by rw [h2]⟩
      · exact Or.inr ⟨st', d :: ds, h1, by rw [h2], h3⟩

/-! ## rounding an integer to 53 significant bits: what follows from `rm q` being the nearest grid point -/

open JL.F64

/-- rounding does not cross a power of two -/
theorem rm_bounds (q L : Nat) : (2 ^ L ≤ q → 2 ^ L ≤ rm q) ∧ (q < 2 ^ L → rm q ≤ 2 ^ L) := by
  have hg : IEEE.GridU (2 ^ L) := ⟨1, L, by decide, (Nat.one_mul _).symm⟩
  rw [rm_eq_roundK]
  exact ⟨fun h => IEEE.le_roundK_of_le q 1 _ Nat.one_pos hg (by rwa [Nat.mul_one]),
    fun h => IEEE.roundK_le_of_le q 1 _ Nat.one_pos hg (by rw [Nat.mul_one]; exact Nat.le_of_lt h)⟩

/-- a rounded value times a power of two needs no second rounding -/
theorem rm_rm (q t : Nat) : rm (rm q * 2 ^ t) = rm q * 2 ^ t := by
  obtain ⟨m, e, hm, h⟩ := (IEEE.roundK_nearest q 1 Nat.one_pos).grid
  rw [rm_eq_roundK q, h, Nat.mul_assoc, ← Nat.pow_add]
  exact rm_repr m _ (Nat.le_of_lt hm)

/-! ## rounding with a sticky bit -/

/-- comparing `a·B + r` (`r < B`) with `H·B`: by `a` against `H`, then by whether `r` is zero -/
theorem cmp_sticky (B a H r : Nat) (hr : r < B) :
    (r + B * a > B * H ↔ a > H ∨ (a = H ∧ r ≠ 0)) ∧ (r + B * a = B * H ↔ a = H ∧ r = 0) := by
  rcases Nat.lt_trichotomy a H with h | rfl | h
  · have := Nat.mul_le_mul_left B (Nat.succ_le_of_lt h)
    rw [Nat.mul_succ] at this
    omega
  · omega
  · have := Nat.mul_le_mul_left B (Nat.succ_le_of_lt h)
    rw [Nat.mul_succ] at this
    omega

/-- Rounding at bit `u + 1 + t` sees the `t` lowest bits of `q` only through whether they are all zero
(a sticky bit): the leading part `q / 2^t` and that one bit decide. -/
theorem rmAt_sticky (u t q : Nat) :
    rmAt (u + 1 + t) q =
      (if (q / 2 ^ t % 2 ^ (u + 1) > 2 ^ u ∨ q / 2 ^ t % 2 ^ (u + 1) = 2 ^ u ∧ q % 2 ^ t ≠ 0) ∨
          (q / 2 ^ t % 2 ^ (u + 1) = 2 ^ u ∧ q % 2 ^ t = 0) ∧ q / 2 ^ t / 2 ^ (u + 1) % 2 = 1
        then q / 2 ^ t / 2 ^ (u + 1) + 1 else q / 2 ^ t / 2 ^ (u + 1)) * 2 ^ (u + 1 + t) := by
  unfold rmAt
  have e : 2 ^ (u + 1 + t) = 2 ^ t * 2 ^ (u + 1) := by rw [Nat.pow_add, Nat.mul_comm]
  have eh : 2 ^ (u + 1 + t - 1) = 2 ^ t * 2 ^ u := by
    rw [show u + 1 + t - 1 = u + t by omega, Nat.pow_add, Nat.mul_comm]
  obtain ⟨c1, c2⟩ := cmp_sticky (2 ^ t) (q / 2 ^ t % 2 ^ (u + 1)) (2 ^ u) (q % 2 ^ t)
    (Nat.mod_lt _ (Nat.two_pow_pos t))
  rw [eh, e, Nat.mod_mul, Nat.div_div_eq_div_mul]
  simp only [c1, c2]

theorem rmAt_scale (sh t q : Nat) (hsh : 1 ≤ sh) : rmAt (sh + t) (q * 2 ^ t) = rmAt sh q * 2 ^ t := by
  obtain ⟨u, rfl⟩ : ∃ u, sh = u + 1 := ⟨sh - 1, by omega⟩
  rw [rmAt_sticky, Nat.mul_div_cancel _ (Nat.two_pow_pos t), Nat.mul_mod_left, rmAt, Nat.pow_add _ (u + 1),
    Nat.mul_assoc]
  simp

theorem rm_scale (q t : Nat) : rm (q * 2 ^ t) = rm q * 2 ^ t := by
  by_cases hL : bitLen q ≤ 53
  · rw [show rm q = q from if_pos hL]
    exact rm_repr q t (Nat.le_of_lt ((bitLen_le_iff q 53).mp hL))
  · have hq : q ≠ 0 := by intro h; subst h; simp [bitLen] at hL
    unfold rm
    rw [bitLen_mul_pow q t hq, if_neg hL, if_neg (by omega),
      show bitLen q + t - 53 = (bitLen q - 53) + t by omega, rmAt_scale _ _ _ (by omega)]

/-- two integers with the same leading part of at least 54 bits, below which both or neither have a set
bit, round alike -/
theorem rm_sticky (t q q' : Nat) (hT : q / 2 ^ t = q' / 2 ^ t) (hz : q % 2 ^ t = 0 ↔ q' % 2 ^ t = 0)
    (hbig : 2 ^ 53 ≤ q / 2 ^ t) : rm q = rm q' := by
  have hL := lt_bitLen_of_le _ _ hbig
  have h0 : q / 2 ^ t ≠ 0 := by have := Nat.two_pow_pos 53; omega
  unfold rm
  rw [bitLen_div_pow q t h0, bitLen_div_pow q' t (hT ▸ h0), ← hT]
  generalize bitLen (q / 2 ^ t) = L at hL
  obtain ⟨u, rfl⟩ : ∃ u, L = u + 54 := ⟨L - 54, by omega⟩
  rw [if_neg (by omega), if_neg (by omega), show u + 54 + t - 53 = u + 1 + t by omega,
    rmAt_sticky, rmAt_sticky, hT]
  simp only [ne_eq, hz]

theorem or_one (A : Nat) : (A ||| 1) / 2 = A / 2 ∧ (A ||| 1) % 2 = 1 := by
  rw [Nat.or_div_two, Nat.or_mod_two_eq_one]; simp

/-- a set lowest bit of the kept part stands for any non-zero tail below it -/
theorem rm_or_one (A b low : Nat) (hA : 2 ^ 54 ≤ A) (hlow0 : 0 < low) (hlow : low < 2 ^ b) :
    rm (A * 2 ^ b + low) = rm ((A ||| 1) * 2 ^ b) := by
  have hb := Nat.two_pow_pos b
  obtain ⟨hhalf, hodd⟩ := or_one A
  have hq : (A * 2 ^ b + low) / 2 ^ b = A := by
    rw [Nat.mul_comm, Nat.mul_add_div hb, Nat.div_eq_of_lt hlow, Nat.add_zero]
  have hr : (A * 2 ^ b + low) % 2 ^ b = low := by
    rw [Nat.mul_comm, Nat.mul_add_mod, Nat.mod_eq_of_lt hlow]
  have hp : 2 ^ (b + 1) = 2 ^ b * 2 := Nat.pow_succ 2 b
  apply rm_sticky (b + 1)
  · rw [hp, ← Nat.div_div_eq_div_mul, ← Nat.div_div_eq_div_mul, hq, Nat.mul_div_cancel _ hb, hhalf]
  · rw [hp, Nat.mod_mul, Nat.mod_mul, hq, hr, Nat.mul_mod_left, Nat.mul_div_cancel _ hb, hodd]
    omega
  · rw [hp, ← Nat.div_div_eq_div_mul, hq]
    omega

/-! ## the final step of `radix_literal` -/

/- in force to the end of the file: lets the elaborator evaluate the literals `2^1074`, `2^2098`; the proofs below treat
them symbolically either way -/
set_option exponentiation.threshold 4096

/-- the exact literal value `acc · 2^shift + low` rounds to `rm (acc | sticky) · 2^shift` -/
theorem rm_radix (acc shift low : Nat) (hlow : low < 2 ^ shift) (hacc : 0 < shift → 2 ^ 60 ≤ acc) :
    rm (acc * 2 ^ shift + low) = rm (if low ≠ 0 then acc ||| 1 else acc) * 2 ^ shift := by
  rw [← rm_scale]
  by_cases hl : low = 0
  · rw [if_neg (not_not_intro hl), hl, Nat.add_zero]
  · have hacc60 := hacc (Nat.pos_of_ne_zero fun h => by rw [h] at hlow; omega)
    rw [if_pos hl]
    exact rm_or_one acc shift low (Nat.le_trans (by decide) hacc60) (Nat.pos_of_ne_zero hl) hlow

/-- the model's last line on a mantissa `x < 2^65`: `ofNat x` is finite and its product with `2^shift` exact, unless
`shift ≥ 1024`, where `x ≥ 2^60` makes both sides overflow -/
theorem ofNat_mul_pow2 (x shift : Nat) (hx : x < 2 ^ 65) (hbig : 1023 < shift → 2 ^ 60 ≤ x) :
    (if shift > 1100 then F64.inf false else F64.mul (F64.ofNat x) (pow2 shift)) =
      if rm (x * F64.S) * 2 ^ shift ≥ F64.OVF then F64.inf false
      else F64.fin false (rm (x * F64.S) * 2 ^ shift) := by
  have hfin : F64.ofNat x = F64.fin false (rm (x * F64.S)) := by
    have h1 : x * F64.S < 2 ^ (65 + 1074) := by
      rw [Nat.pow_add, S_eq]
      exact Nat.mul_lt_mul_of_pos_right hx (Nat.two_pow_pos _)
    have h2 : 2 ^ (65 + 1074) < F64.OVF := by
      rw [OVF_eq]; exact Nat.pow_lt_pow_right (by decide) (by decide)
    have := (rm_bounds _ _).2 h1
    rw [F64.ofNat, roundUnits_rm, if_neg (by omega)]
  rw [hfin]
  by_cases hs : shift ≤ 1023
  · rw [if_neg (by omega)]
    simp only [pow2, hs, if_true, F64.mul]
    rw [roundUnits_eq, ← Nat.mul_assoc, roundK_mul _ _ S_pos, rm_rm]
    rfl
  · have hbig' : 2 ^ (60 + 1074) ≤ x * F64.S := by
      rw [Nat.pow_add, S_eq]
      exact Nat.mul_le_mul_right _ (hbig (by omega))
    have hk := (rm_bounds _ _).1 hbig'
    have hovf : rm (x * F64.S) * 2 ^ shift ≥ F64.OVF := by
      refine Nat.le_trans ?_ (Nat.mul_le_mul_right _ hk)
      rw [OVF_eq, ← Nat.pow_add]
      exact Nat.pow_le_pow_right (by decide) (by omega)
    rw [if_pos hovf]
    split
    · rfl
    · have := Nat.two_pow_pos (60 + 1074)
      simp [pow2, hs, F64.mul, show rm (x * F64.S) ≠ 0 by omega]

/-- `radix_literal`'s final step is one correct rounding of the exact integer -/
theorem radix_round (acc shift : Nat) (sticky : Bool) (n : Nat) (h : LoopInv (acc, shift, sticky) n) :
    (if shift > 1100 then F64.inf false
     else F64.mul (F64.ofNat (if sticky then acc ||| 1 else acc)) (pow2 shift)) =
      F64.roundUnits false (n * F64.S) 1 := by
  obtain ⟨low, hv, hlow, hst, hacc, hlt⟩ := h
  simp only at hv hlow hst hacc hlt
  subst hv
  have hx : (if sticky then acc ||| 1 else acc) = (if low ≠ 0 then acc ||| 1 else acc) := by
    cases sticky <;> simp_all
  have := or_one acc  -- for the final `omega`: `acc ||| 1` is `2 * (acc / 2) + 1`
  -- the scaling to units goes through the rounding on both sides
  rw [roundUnits_rm, S_eq, rm_scale, rm_radix acc shift low hlow hacc, hx, Nat.mul_right_comm, ← rm_scale, ← S_eq]
  exact ofNat_mul_pow2 _ shift (by split <;> omega) fun hs => by have := hacc (by omega); split <;> omega

/-! ## `radix_literal` against the grammar -/

/-- a text `0p…` with `p` a radix letter is not a decimal literal: the grammar reads `0`, stops at the letter, and
something is left over (by evaluation on the first two characters) -/
theorem specDec_radix (p : Char) (ds : Str) (hp : p ∈ ['x', 'X', 'o', 'O', 'b', 'B']) :
    specDec ('0' :: p :: ds) = none := by
  simp only [List.mem_cons, List.not_mem_nil, or_false] at hp
  rcases hp with rfl | rfl | rfl | rfl | rfl | rfl <;> rfl

/-- a text `0p…` where model and grammar both read `p` as the letter of `radix`: the digit loop followed by the final
rounding, against the grammar reading -/
theorem radix_letter (radix bits : Nat) (hb : bits ≤ 4) (hr : radix = 2 ^ bits) (digit? : Char → Option Nat)
    (hdig : ∀ c, toDigit radix c = digit? c) (p : Char) (ds : Str) (hp : p ∈ ['x', 'X', 'o', 'O', 'b', 'B'])
    (hm : radixLiteral ('0' :: p :: ds) =
      if ds.isEmpty = true then some none
      else match radixLoop radix bits ds (0, 0, false) with
        | none => some none
        | some (acc, shift, sticky) =>
            some (some (if shift > 1100 then F64.inf false
              else F64.mul (F64.ofNat (if sticky = true then acc ||| 1 else acc)) (pow2 shift))))
    (hs : ES.nonDecimalIntegerLiteral ('0' :: p :: ds) =
      if ds = [] then none else (ES.digitsOnly digit? ds).map (ES.mv radix)) :
    (match radixLiteral ('0' :: p :: ds) with
      | some rv => rv
      | none => modelDec ('0' :: p :: ds)) =
    (match ES.nonDecimalIntegerLiteral ('0' :: p :: ds) with
      | some n => some (F64.roundUnits false (n * F64.S) 1)
      | none => specDec ('0' :: p :: ds)) := by
  rw [hm, hs, specDec_radix p ds hp, ← funext hdig]
  cases ds with
  | nil => rfl
  | cons d ds =>
    rw [if_neg (by simp), if_neg (by simp)]
    rcases radixLoop_spec radix bits hb hr (d :: ds) (0, 0, false) 0 ⟨0, by simp, by simp, by simp, by simp, by simp⟩
      with ⟨h1, h2⟩ | ⟨⟨acc, shift, sticky⟩, dl, h1, h2, h3⟩
    · rw [h1, h2]; rfl
    · rw [h1, h2]
      simp only [Option.map_some, radix_round acc shift sticky _ h3]
      rfl

/-- model and grammar both decline a text that does not start with `0` and a radix letter -/
theorem radixLiteral_none (t : Str) (h : ∀ p ds, p ∈ ['x', 'X', 'o', 'O', 'b', 'B'] → t ≠ '0' :: p :: ds) :
    radixLiteral t = none ∧ ES.nonDecimalIntegerLiteral t = none := by
  have hp (p : Char) (ds : Str) (ht : t = '0' :: p :: ds) :
      p ≠ 'x' ∧ p ≠ 'X' ∧ p ≠ 'o' ∧ p ≠ 'O' ∧ p ≠ 'b' ∧ p ≠ 'B' := by
    have := fun hp => h p ds hp ht
    simpa [not_or] using this
  constructor
  · unfold radixLiteral
    split
    · simp [hp _ _ rfl]
    · rfl
  · unfold ES.nonDecimalIntegerLiteral
    split
    · simp [hp _ _ rfl]
    · rfl

theorem radix_branch (t : Str) :
    (match radixLiteral t with
      | some rv => rv
      | none => modelDec t) =
    (match ES.nonDecimalIntegerLiteral t with
      | some n => some (F64.roundUnits false (n * F64.S) 1)
      | none => specDec t) := by
  by_cases h : ∃ p ds, p ∈ ['x', 'X', 'o', 'O', 'b', 'B'] ∧ t = '0' :: p :: ds
  · -- on a concrete letter both sides unfold to the form `radix_letter` asks for
    obtain ⟨p, ds, hp, rfl⟩ := h
    simp only [List.mem_cons, List.not_mem_nil, or_false] at hp
    rcases hp with rfl | rfl | rfl | rfl | rfl | rfl
    · exact radix_letter 16 4 (by decide) rfl _ toDigit_hex _ ds (by decide) rfl rfl
    · exact radix_letter 16 4 (by decide) rfl _ toDigit_hex _ ds (by decide) rfl rfl
    · exact radix_letter 8 3 (by decide) rfl _ toDigit_oct _ ds (by decide) rfl rfl
    · exact radix_letter 8 3 (by decide) rfl _ toDigit_oct _ ds (by decide) rfl rfl
    · exact radix_letter 2 1 (by decide) rfl _ toDigit_bin _ ds (by decide) rfl rfl
    · exact radix_letter 2 1 (by decide) rfl _ toDigit_bin _ ds (by decide) rfl rfl
  · obtain ⟨h1, h2⟩ := radixLiteral_none t fun p ds hp he => h ⟨p, ds, hp, he⟩
    rw [h1, h2]
    exact modelDec_eq t

/-- `str_to_number` is `StringToNumber` of ECMA-262 -/
theorem strToNumber_eq (s : Str) : strToNumber s = ES.stringToNumber s := by
  rw [strToNumber_unfold, stringToNumber_unfold, strip_eq]
  by_cases h : trimBoth s = []
  · simp [h, F64.zero]
  · have hemp : (trimBoth s).isEmpty = false := by
      cases ht : trimBoth s <;> simp_all
    simp only [hemp, h, if_false, Bool.false_eq_true]
    exact radix_branch _

end JL.Lemmas.StrNum
