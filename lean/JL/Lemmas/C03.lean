import JL.Lemmas.C05
import JL.Lemmas.C13
import JL.Lemmas.C14
/-!
# Lemmas for C03: evaluation reads the operand of an operation only through its operand list

So `{op: x}` (x not an array) evaluates exactly as `{op: [x]}`. Eager and data operators by kind, whichever operator it
is (so also one added to the tables later); the lazy operators each read their operand themselves and are taken key by key.
-/
namespace JL.Lemmas.C03
open JL Json JL.Lemmas.C05 JL.Lemmas.C13 JL.Lemmas.C14

theorem run_congr_operands {k : Str} {v v' : Json} (hk : (lookupOp k).isSome = true) (h : operands v = operands v')
    (d : Json) : run (.obj [(k, v)]) d = run (.obj [(k, v')]) d := by
  obtain ⟨⟨kind, ar⟩, hl⟩ := Option.isSome_iff_exists.mp hk
  cases kind with
  | eager => rw [run_eager hl _ d, run_eager hl _ d, h]
  | data => rw [run_data hl _ d, run_data hl _ d, h]
  | lazy =>
    rcases lookupOp_lazy_key hl with hk | hk | hk | hk | hk | hk | hk | hk | hk
    · rw [run_if hk, run_if hk, h]
    · rw [run_oa (.inl ⟨hk, rfl⟩), run_oa (.inl ⟨hk, rfl⟩), h]
    · rw [run_oa (.inr ⟨hk, rfl⟩), run_oa (.inr ⟨hk, rfl⟩), h]
    · rw [run_map hk, run_map hk, h]
    · rw [run_filter hk, run_filter hk, h]
    · rw [run_reduce hk, run_reduce hk, h]
    · rw [run_all hk, run_all hk, h]
    · rw [run_some hk, run_some hk, h]
    · rw [run_none hk, run_none hk, h]

theorem run_sugar (k : Str) (x d : Json) (hx : ∀ xs, x ≠ .arr xs) (hk : (lookupOp k).isSome = true) :
    run (.obj [(k, x)]) d = run (.obj [(k, .arr [x])]) d :=
  run_congr_operands hk (operands_of_not_arr hx) d

end JL.Lemmas.C03
