import JL.Lemmas.Run
import JL.Lemmas.Exec
/-!
# Helper lemmas for C13 (and C04): the data loops `mapData` / `filterData` / `reduceData` against `List.mapM` /
`List.filter` / `List.foldlM`; the `map` / `filter` / `reduce` branches of `run` as equations in `M`.
-/
namespace JL
open Json

/-! ## `mapData` -/

theorem mapData_nil (f : Json → M Json) : mapData f [] = ⟨[], .ok []⟩ := rfl
theorem mapData_cons (f : Json → M Json) (x : Json) (xs : List Json) :
    mapData f (x :: xs) = (f x >>= fun y => mapData f xs >>= fun ys => pure (y :: ys)) := rfl

theorem mapData_eq_mapM (f : Json → M Json) (xs : List Json) : mapData f xs = xs.mapM f := by
  induction xs with
  | nil => rfl
  | cons x xs ih => rw [mapData_cons, List.mapM_cons, ih]

theorem mapData_ok_iff (f : Json → M Json) (xs : List Json) (l ys : List Json) :
    mapData f xs = ⟨l, .ok ys⟩ ↔
      xs.map (fun x => (f x).out) = ys.map Out.ok ∧ l = xs.flatMap (fun x => (f x).logs) := by
  induction xs generalizing l ys with
  | nil => cases ys <;> simp [mapData_nil, @eq_comm _ [] l]
  | cons x xs ih =>
    rw [mapData_cons, M.bind_bind_pure_eq_ok]
    constructor
    · rintro ⟨l₁, a, l₂, b, h1, h2, rfl, rfl⟩
      obtain ⟨h3, rfl⟩ := (ih _ _).mp h2
      simp [h1, h3]
    · rintro ⟨h1, rfl⟩
      cases ys with
      | nil => simp at h1
      | cons y ys =>
        simp only [List.map_cons, List.cons.injEq] at h1
        exact ⟨_, y, _, ys, M.ext rfl h1.1, (ih _ ys).mpr ⟨h1.2, rfl⟩, rfl, by simp⟩

theorem mapData_length (f : Json → M Json) (xs ys l : List Json) (h : mapData f xs = ⟨l, .ok ys⟩) :
    ys.length = xs.length := by
  have := congrArg List.length ((mapData_ok_iff f xs l ys).mp h).1
  simpa using this.symm

theorem mapData_of_ok (f : Json → M Json) (g : Json → Json) (xs : List Json)
    (h : ∀ x ∈ xs, (f x).out = .ok (g x)) :
    mapData f xs = ⟨xs.flatMap (fun x => (f x).logs), .ok (xs.map g)⟩ := by
  rw [mapData_ok_iff]
  refine ⟨?_, rfl⟩
  rw [List.map_map]
  exact List.map_congr_left (fun x hx => by simp [h x hx])

theorem mapData_first_err (f : Json → M Json) (pre post : List Json) (x : Json)
    (hpre : ∀ p ∈ pre, ∃ y, (f p).out = .ok y) (hx : (f x).out = .err) :
    mapData f (pre ++ x :: post) = ⟨(pre ++ [x]).flatMap (fun x => (f x).logs), .err⟩ := by
  induction pre with
  | nil => rw [List.nil_append, mapData_cons, M.bind_of_err hx]; simp
  | cons p pre ih =>
    obtain ⟨y, hy⟩ := hpre p List.mem_cons_self
    rw [List.cons_append, mapData_cons, ih fun q hq => hpre q (List.mem_cons_of_mem _ hq), M.bind_of_ok hy]
    rfl

theorem mapData_first_panic (f : Json → M Json) (pre post : List Json) (x : Json)
    (hpre : ∀ p ∈ pre, ∃ y, (f p).out = .ok y) (hx : (f x).out = .panic) :
    mapData f (pre ++ x :: post) = ⟨(pre ++ [x]).flatMap (fun x => (f x).logs), .panic⟩ := by
  induction pre with
  | nil => rw [List.nil_append, mapData_cons, M.bind_of_panic hx]; simp
  | cons p pre ih =>
    obtain ⟨y, hy⟩ := hpre p List.mem_cons_self
    rw [List.cons_append, mapData_cons, ih fun q hq => hpre q (List.mem_cons_of_mem _ hq), M.bind_of_ok hy]
    rfl

/-! ## `filterData` -/

/-- "the predicate succeeded with a truthy value" -/
def okTruthy (m : M Json) : Bool :=
  match m.out with
  | .ok v => truthy v
  | _ => false

theorem filterData_nil (f : Json → M Json) : filterData f [] = ⟨[], .ok []⟩ := rfl
theorem filterData_cons (f : Json → M Json) (x : Json) (xs : List Json) :
    filterData f (x :: xs) =
      (f x >>= fun p => filterData f xs >>= fun ys => pure (if truthy p then x :: ys else ys)) := rfl

theorem okTruthy_of_ok {m : M Json} {p : Json} (h : m.out = .ok p) : okTruthy m = truthy p := by
  rw [okTruthy, h]

theorem filterData_ok_iff (f : Json → M Json) (xs : List Json) (l ys : List Json) :
    filterData f xs = ⟨l, .ok ys⟩ ↔
      (∀ x ∈ xs, ∃ p, (f x).out = .ok p) ∧ ys = xs.filter (fun x => okTruthy (f x)) ∧
        l = xs.flatMap (fun x => (f x).logs) := by
  induction xs generalizing l ys with
  | nil => simp [filterData_nil, @eq_comm _ [] l, @eq_comm _ [] ys, and_comm]
  | cons x xs ih =>
    rw [filterData_cons, M.bind_bind_pure_eq_ok, List.filter_cons, List.forall_mem_cons]
    constructor
    · rintro ⟨l₁, p, l₂, b, h1, h2, rfl, rfl⟩
      obtain ⟨h3, rfl, rfl⟩ := (ih _ _).mp h2
      have hp : (f x).out = .ok p := by rw [h1]
      exact ⟨⟨⟨p, hp⟩, h3⟩, by rw [okTruthy_of_ok hp], by simp [h1]⟩
    · rintro ⟨⟨⟨p, hp⟩, h1⟩, rfl, rfl⟩
      exact ⟨_, p, _, _, M.ext rfl hp, (ih _ _).mpr ⟨h1, rfl, rfl⟩, by rw [okTruthy_of_ok hp], by simp⟩

theorem filterData_sublist (f : Json → M Json) (xs l ys : List Json) (h : filterData f xs = ⟨l, .ok ys⟩) :
    ys.Sublist xs := by
  rw [((filterData_ok_iff f xs l ys).mp h).2.1]
  exact List.filter_sublist

theorem filterData_of_ok (f : Json → M Json) (g : Json → Json) (xs : List Json)
    (h : ∀ x ∈ xs, (f x).out = .ok (g x)) :
    filterData f xs = ⟨xs.flatMap (fun x => (f x).logs), .ok (xs.filter (fun x => truthy (g x)))⟩ := by
  rw [filterData_ok_iff]
  exact ⟨fun x hx => ⟨_, h x hx⟩, List.filter_congr fun x hx => (okTruthy_of_ok (h x hx)).symm, rfl⟩

theorem filterData_first_err (f : Json → M Json) (pre post : List Json) (x : Json)
    (hpre : ∀ p ∈ pre, ∃ y, (f p).out = .ok y) (hx : (f x).out = .err) :
    filterData f (pre ++ x :: post) = ⟨(pre ++ [x]).flatMap (fun x => (f x).logs), .err⟩ := by
  induction pre with
  | nil => rw [List.nil_append, filterData_cons, M.bind_of_err hx]; simp
  | cons p pre ih =>
    obtain ⟨y, hy⟩ := hpre p List.mem_cons_self
    rw [List.cons_append, filterData_cons, ih fun q hq => hpre q (List.mem_cons_of_mem _ hq), M.bind_of_ok hy]
    rfl

/-- as a left fold: pushing the kept elements onto an accumulator is `filterData` appended to it (`hg`: one step, however spelled) -/
theorem filter_foldlM (f : Json → M Json) (g : List Json → Json → M (List Json))
    (hg : ∀ acc x, g acc x = f x >>= fun p => pure (if truthy p then acc ++ [x] else acc)) :
    ∀ (xs acc : List Json), xs.foldlM g acc = filterData f xs >>= fun ys => pure (acc ++ ys)
  | [], acc => by simp [filterData_nil]
  | x :: xs, acc => by
    rw [List.foldlM_cons, hg, filterData_cons, M.bind_assoc, M.bind_assoc]
    congr 1; funext p
    rw [M.pure_bind, filter_foldlM f g hg xs, M.bind_assoc]
    congr 1; funext ys
    cases truthy p <;> simp

/-! ## `reduceData` -/

theorem reduceData_nil (f : Json → M Json) (a : Json) : reduceData f [] a = ⟨[], .ok a⟩ := rfl
theorem reduceData_cons (f : Json → M Json) (x : Json) (xs : List Json) (a : Json) :
    reduceData f (x :: xs) a = (f (reduceCtx a x) >>= fun a' => reduceData f xs a') := rfl

theorem reduceData_eq_foldlM (f : Json → M Json) (xs : List Json) (a : Json) :
    reduceData f xs a = xs.foldlM (fun acc x => f (reduceCtx acc x)) a := by
  induction xs generalizing a with
  | nil => rfl
  | cons x xs ih => rw [reduceData_cons, List.foldlM_cons]; congr 1; funext a'; exact ih a'

theorem reduceData_out_of_ok (f : Json → M Json) (g : Json → Json) (h : ∀ c, (f c).out = .ok (g c))
    (xs : List Json) (a : Json) :
    (reduceData f xs a).out = .ok (xs.foldl (fun acc x => g (reduceCtx acc x)) a) := by
  induction xs generalizing a with
  | nil => rfl
  | cons x xs ih => rw [reduceData_cons, M.bind_out_of_ok (h _), ih, List.foldl_cons]

/-! ## the three branches of `run`, unfolded -/

namespace Lemmas.C13

/-- lazy parse-then-evaluate of one operand (what the code does with every operand of a lazy operator it needs) -/
def ev (d e : Json) : M Json := if check e then run e d else M.err

/-- the collection operand as a list of items: an array's elements; `null` has no items; anything else is no collection -/
def collOf : Json → Option (List Json)
  | .arr xs => some xs
  | .null => some []
  | _ => none

/-- parsing of the element expression (`Parsed::from_value(expression)?`): nothing evaluated, no trace -/
def parsed (e : Json) : M Unit := if check e then pure () else M.err

theorem ev_eq_apply (d e : Json) : ev d e = apply e d := rfl

/-- the middle part of the three branches, as `run` writes it: the collection value must be a collection, then the
element expression is parsed; neither step leaves a trace -/
theorem coll_bind {β} (cv e : Json) (K : List Json → M β) :
    (M.ofOption (collOf cv) >>= fun items => parsed e >>= fun _ => K items) =
      match collOf cv with
      | none => M.err
      | some items => if !check e then M.err else K items := by
  cases collOf cv with
  | none => rfl
  | some items => cases h : check e <;> simp [parsed, h, M.mk_eta]

theorem coll_bind_eq_ok {β} (cv e : Json) (K : List Json → M β) (l : List Json) (b : β) :
    (M.ofOption (collOf cv) >>= fun items => parsed e >>= fun _ => K items) = ⟨l, .ok b⟩ ↔
      ∃ items, collOf cv = some items ∧ check e = true ∧ K items = ⟨l, .ok b⟩ := by
  rw [coll_bind]
  cases collOf cv with
  | none => simp
  | some items => cases check e <;> simp

theorem coll_bind_of_ok {β} (cv e : Json) (items : List Json) (K : List Json → M β)
    (hc : collOf cv = some items) (he : check e = true) :
    (M.ofOption (collOf cv) >>= fun items => parsed e >>= fun _ => K items) = K items := by
  rw [coll_bind, hc, he]; rfl

theorem coll_bind_of_none {β} (cv e : Json) (K : List Json → M β) (hc : collOf cv = none) :
    (M.ofOption (collOf cv) >>= fun items => parsed e >>= fun _ => K items) = ⟨[], .err⟩ := by
  rw [coll_bind, hc]; rfl

theorem coll_bind_of_malformed {β} (cv e : Json) (items : List Json) (K : List Json → M β)
    (hc : collOf cv = some items) (he : check e = false) :
    (M.ofOption (collOf cv) >>= fun items => parsed e >>= fun _ => K items) = ⟨[], .err⟩ := by
  rw [coll_bind, hc, he]; rfl

/- The key is a variable in these equations (callers pass `rfl`): at a literal key the kernel would evaluate `lookupOp`
when `run` is unfolded. An operand the arity would have rejected is the model's panic (`items[1]` out of bounds). -/

theorem run_map {k : Str} (hk : k = "map".toList) (v d : Json) :
    run (.obj [(k, v)]) d =
      match operands v with
      | c :: e :: _ => do
          let cv ← ev d c
          let items ← M.ofOption (collOf cv)
          parsed e
          let rs ← mapData (fun x => run e x) items
          pure (.arr rs)
      | _ => M.panic := by
  conv => lhs; unfold run
  lazy_key hk with lookup_map
  rcases v with _ | _ | _ | _ | ⟨_ | ⟨c, _ | ⟨e, rest⟩⟩⟩ | _ <;> try rfl
  simp only [operands, ev_eq_apply, apply_bind]
  cases check c
  · rfl
  · exact M.bind_congr fun cv _ => (coll_bind cv e _).symm

theorem run_filter {k : Str} (hk : k = "filter".toList) (v d : Json) :
    run (.obj [(k, v)]) d =
      match operands v with
      | c :: e :: _ => do
          let cv ← ev d c
          let items ← M.ofOption (collOf cv)
          parsed e
          let rs ← filterData (fun x => run e x) items
          pure (.arr rs)
      | _ => M.panic := by
  conv => lhs; unfold run
  lazy_key hk with lookup_filter
  rcases v with _ | _ | _ | _ | ⟨_ | ⟨c, _ | ⟨e, rest⟩⟩⟩ | _ <;> try rfl
  simp only [operands, ev_eq_apply, apply_bind]
  cases check c
  · rfl
  · exact M.bind_congr fun cv _ => (coll_bind cv e _).symm

theorem run_reduce {k : Str} (hk : k = "reduce".toList) (v d : Json) :
    run (.obj [(k, v)]) d =
      match operands v with
      | c :: e :: i :: _ => do
          let cv ← ev d c
          let iv ← ev d i
          let items ← M.ofOption (collOf cv)
          parsed e
          reduceData (fun x => run e x) items iv
      | _ => M.panic := by
  conv => lhs; unfold run
  lazy_key hk with lookup_reduce
  rcases v with _ | _ | _ | _ | ⟨_ | ⟨c, _ | ⟨e, _ | ⟨i, rest⟩⟩⟩⟩ | _ <;> try rfl
  simp only [operands, ev_eq_apply, apply_bind]
  cases check c
  · rfl
  · refine M.bind_congr fun cv _ => ?_
    cases check i
    · rfl
    · exact M.bind_congr fun iv _ => (coll_bind cv e _).symm

/- the parse phase accepts `map`/`filter` with exactly two operands and `reduce` with exactly three, whatever the operands
are (they are kept raw) -/

theorem check_map (c e : Json) : check (.obj [("map".toList, .arr [c, e])]) = true := by
  rw [check_op lookup_map]; rfl
theorem check_filter (c e : Json) : check (.obj [("filter".toList, .arr [c, e])]) = true := by
  rw [check_op lookup_filter]; rfl
theorem check_reduce (c e i : Json) : check (.obj [("reduce".toList, .arr [c, e, i])]) = true := by
  rw [check_op lookup_reduce]; rfl

theorem check_var_self : check (.obj [("var".toList, .str [])]) = true := by
  rw [check_op lookup_var]; rfl

/-- `{"var": ""}` is the whole data -/
theorem run_var_self (x : Json) : run (.obj [("var".toList, .str [])]) x = ⟨[], .ok x⟩ := by
  rw [run_data lookup_var, execData_var]
  rfl

end Lemmas.C13
end JL
