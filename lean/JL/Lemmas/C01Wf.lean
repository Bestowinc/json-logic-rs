import JL.Lemmas.C01
import JL.Lemmas.C10
import JL.Lemmas.C11
import JL.Lemmas.Json
import JL.Lemmas.Exec
/-!
# Lemmas for C01 (well-formedness half): evaluation only ever builds well-formed JSON values

The postcondition is `M.Post False WfV WfV`: a value produced is well-formed and so is every line logged, whatever the
outcome. `Json.wf` is `Preserved` (`preserved_wf`: sub-values of
well-formed values are well-formed, `getKey_wf`; the `reduce` context is, `reduceCtx_wf`), which settles the data operators;
the eager operators are taken row by row (`execEager_wf`); `run_wf` is then the instance `np = False`, `W = Json.wf` of the
walk `Lemmas.C01.run_post`.
-/
namespace JL.Lemmas.C01Wf
open JL Json M

/-- the invariant: a produced value satisfies `P`, every logged line is well-formed -/
def Sat {α : Type} (P : α → Prop) (x : M α) : Prop :=
  (∀ a, x.out = .ok a → P a) ∧ ∀ l ∈ x.logs, l.wf = true

abbrev WfV (v : Json) : Prop := v.wf = true

/-! ## `Sat` is the postcondition `M.Post` without the panic clause, log lines well-formed -/

theorem sat_iff_post {α} {P : α → Prop} {x : M α} : Sat P x ↔ Post False WfV P x :=
  ⟨fun h => ⟨False.elim, h.1, h.2⟩, fun h => ⟨h.2.1, h.2.2⟩⟩

theorem sat_mono {α} {P Q : α → Prop} {x : M α} (h : ∀ a, P a → Q a) (hx : Sat P x) : Sat Q x :=
  sat_iff_post.mpr (post_mono h (sat_iff_post.mp hx))

/-! ## sub-values of well-formed values -/

theorem step_wf (acc : Json) (seg : Str) (v : Json) (ha : acc.wf = true) (h : Data.step acc seg = some v) :
    v.wf = true := by
  unfold Data.step at h
  split at h
  · exact lookup_wf (wf_obj_kvs ha) h
  · split at h
    · exact mem_wf ha (Lemmas.C11.mem_of_get h)
    · cases h
  · split at h
    · simp only [Option.map_eq_some_iff] at h
      obtain ⟨c, -, rfl⟩ := h
      exact wf_str _
    · cases h
  · cases h

theorem walk_wf (segs : List Str) (acc v : Json) (ha : acc.wf = true) (h : Data.walk segs acc = some v) : v.wf = true := by
  rw [C11.walk_eq_foldlM] at h
  exact foldlM_inv_mem WfV Data.step segs (fun seg _ a b ha hs => step_wf a seg b ha hs) acc v ha h

theorem getStrKey_wf {d : Json} {k : Str} {v : Json} (hd : d.wf = true) (h : Data.getStrKey d k = some v) :
    v.wf = true := by
  unfold Data.getStrKey at h
  split at h
  · cases h; exact hd
  · split at h
    · exact walk_wf _ _ _ hd h
    · exact walk_wf _ _ _ hd h
    · exact walk_wf _ _ _ hd h
    · cases h

/-- `var` lookups return a sub-value of the data, or a one-character string -/
theorem getKey_wf (d : Json) (key : Data.Key) (v : Json) (hd : d.wf = true) (h : Data.getKey d key = some v) :
    v.wf = true := by
  unfold Data.getKey at h
  split at h
  · cases h; exact hd
  · exact getStrKey_wf hd h
  · split at h
    · exact getStrKey_wf hd h
    · exact mem_wf hd (Lemmas.C11.mem_of_get h)
    · simp only [Option.map_eq_some_iff] at h
      obtain ⟨c, -, rfl⟩ := h
      exact wf_str _
    · cases h

/-! ## `Json.wf` is preserved by the plumbing of the interpreter; data operators -/

theorem reduceCtx_wf (acc cur : Json) (ha : acc.wf = true) (hc : cur.wf = true) : (reduceCtx acc cur).wf = true := by
  have hk : strLt "accumulator".toList "current".toList = true := by decide
  simp only [reduceCtx, Json.wf, wfKvs, keysSorted, ha, hc, hk, Bool.and_self]

theorem preserved_wf : Preserved WfV :=
  ⟨wf_null, wf_bool, wf_str, fun {xs} => by rw [WfV, wf_arr, wfList_iff], fun {k v} h => (wf_single k v).symm.trans h,
    fun ha hc => reduceCtx_wf _ _ ha hc, fun hd h => getKey_wf _ _ _ hd h⟩

/-- **data operators**: on well-formed data and operands, a result is well-formed (nothing is logged) -/
theorem execData_wf (k : Str) (d : Json) (hd : d.wf = true) (items : List Json) (hi : wfList items = true) :
    Post False WfV WfV (execData k d items) :=
  execData_post preserved_wf k (fun h => h.elim) hd ((wfList_iff items).mp hi)

/-! ## eager operators -/

theorem numResult_post_wf {r : Option F64} (hr : F64.OptWF r) : Post False WfV WfV (numResult r) :=
  numResult_post r fun x w hx hw => toNumberValue_wf x (hr x hx) w hw

/-- `merge`: the concatenation of well-formed arrays and singletons -/
theorem merge_wf (items : List Json) (h : wfList items = true) : wfList (ArrOp.merge items) = true := by
  rw [wfList_iff] at h ⊢
  intro x hx
  unfold ArrOp.merge at hx
  obtain ⟨i, hi, hxi⟩ := List.mem_flatMap.mp hx
  have hiw := h i hi
  split at hxi
  · exact mem_wf hiw hxi
  · simp at hxi; subst hxi; exact hiw

/-- every `some` that `substr` returns is a string -/
theorem substr_wf (s i : Json) (l : Option Json) (v : Json) (h : StrOp.substr s i l = some v) : v.wf = true := by
  unfold StrOp.substr at h
  repeat' split at h
  all_goals first
    | (cases h; done)
    | (simp only [Option.some.injEq] at h; subst h; exact wf_str _)

/-- **eager operators**: on well-formed operands, a result is well-formed and so is every logged line — row by row of
`eagerRows`, each with its reason -/
theorem execEager_wf (k : Str) (items : List Json) (hi : wfList items = true) :
    Post False WfV WfV (execEager k items) := by
  rw [execEager_chain]
  refine rowChain_of_rows post_err ?_
  simp only [eagerRows, List.forall_mem_cons, List.not_mem_nil, false_imp_iff, implies_true, and_true]
  refine ⟨?eq, ?ne, ?seq, ?sne, ?not, ?notnot, ?lt, ?le, ?gt, ?ge, ?plus, ?times, ?minus, ?div, ?mod, ?max, ?min, ?merge,
    ?in_, ?cat, ?substr, ?log⟩
  all_goals intro _
  case eq | ne | seq | sne | not | notnot => split <;> first | exact post_pure (wf_bool _) | exact post_panic id
  case lt | le | gt | ge => exact compare_post _ _ False.elim wf_bool
  case plus => exact numResult_post_wf (JsOp.parseFloatAdd_WF _)
  case times => exact numResult_post_wf (JsOp.parseFloatMul_WF _)
  case minus =>
    split
    · exact numResult_post_wf (JsOp.toNegative_WF _)
    · exact numResult_post_wf (JsOp.abstractMinus_WF _ _)
    · exact post_panic id
  case div =>
    split
    · exact numResult_post_wf (JsOp.abstractDiv_WF _ _)
    · exact post_panic id
  case mod =>
    -- `%` returns (a remainder of) its operands: the only arithmetic row that needs them well-formed
    split
    · simp only [wfList, Bool.and_eq_true] at hi
      exact numResult_post_wf (JsOp.abstractMod_WF _ _ hi.1 hi.2.1)
    · exact post_panic id
  case max => exact numResult_post_wf (JsOp.abstractMax_WF _ ((wfList_iff _).mp hi))
  case min => exact numResult_post_wf (JsOp.abstractMin_WF _ ((wfList_iff _).mp hi))
  case merge => exact post_pure (by rw [WfV, wf_arr]; exact merge_wf _ hi)
  case in_ =>
    split
    · split
      · exact post_pure (wf_bool _)
      · exact post_err
    · exact post_panic id
  case cat => exact post_pure (wf_str _)
  case substr => split <;> first | exact post_ofOption fun v hv => substr_wf _ _ _ v hv | exact post_panic id
  case log =>
    -- the one row that logs: the line is the operand itself
    split
    · simp only [wfList, Bool.and_eq_true] at hi
      exact post_bind (P := fun _ => True) ⟨False.elim, fun _ _ => trivial, by simpa [M.log] using hi.1⟩ fun _ _ => post_pure hi.1
    · exact post_panic id

/-! ## the `run`-level statement: an instance of `Lemmas.C01.run_post` -/

/-- **Well-formed results.** On a well-formed rule and well-formed data, a value produced by `run` is
well-formed, and so is every line logged on the way (whatever the outcome). No `check` hypothesis is needed:
an outcome that is not a value satisfies the invariant trivially. -/
theorem run_wf (r d : Json) (hr : r.wf = true) (hd : d.wf = true) : Post False WfV WfV (run r d) :=
  Lemmas.C01.run_post preserved_wf (fun k _ items _ _ hi => execEager_wf k items ((wfList_iff items).mpr hi))
    r False.elim hr d hd

theorem apply_wf (r d : Json) (hr : r.wf = true) (hd : d.wf = true) : Post False WfV WfV (apply r d) :=
  post_ite (fun _ => run_wf r d hr hd) fun _ => post_err

end JL.Lemmas.C01Wf

namespace JL.Lemmas.C01
open JL Json M

/-! ## the numbers built by `to_number_value` are well-formed JSON numbers

`F64.WF` = "on the binary64 grid". Every result of the model's rounding function is on the grid (`F64.roundUnits_WF`),
hence every result of `add`/`sub`/`mul`/`div` is, whatever the operands; and `to_number_value` of a double on the grid is
a `Num` satisfying `Num.WF` (`toNumberValue_wf`, Lemmas/C10). -/

section
open F64
theorem negate_wf (x : F64) (h : WF x) : WF (negate x) := negate_WF x h
end

theorem numResult_wf (r : Option F64) (hr : ∀ x, r = some x → F64.WF x) (v : Json)
    (h : (numResult r).out = .ok v) : v.wf = true :=
  (C01Wf.numResult_post_wf hr).2.1 v h

/-- `+ * - /` (all operand counts their arity admits, any operand values): a result is a well-formed value -/
theorem arith_result_wf (k : Str) (hk : k = "+".toList ∨ k = "*".toList ∨ k = "-".toList ∨ k = "/".toList)
    (items : List Json) (v : Json) (h : (execEager k items).out = .ok v) : v.wf = true := by
  rcases hk with rfl | rfl | rfl | rfl
  · rw [execEager_plus] at h
    exact numResult_wf _ (JsOp.parseFloatAdd_WF items) v h
  · rw [execEager_times] at h
    exact numResult_wf _ (JsOp.parseFloatMul_WF items) v h
  · rcases items with _ | ⟨a, _ | ⟨b, rest⟩⟩
    · cases h
    · rw [execEager_neg] at h
      exact numResult_wf _ (JsOp.toNegative_WF a) v h
    · rw [execEager_minus] at h
      exact numResult_wf _ (JsOp.abstractMinus_WF a b) v h
  · rcases items with _ | ⟨a, _ | ⟨b, rest⟩⟩
    · cases h
    · cases h
    · rw [execEager_div] at h
      exact numResult_wf _ (JsOp.abstractDiv_WF a b) v h

end JL.Lemmas.C01
