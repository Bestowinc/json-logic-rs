import JL.Rs
import JL.Lemmas.Monad
/-!
# Helper lemmas for the tie theorems of `JL/Tie` about code in the outcome monad `M`

General facts about `M.bind`, `Rs.settled`, `Rs.foldM` (translated `Result`-valued folds) and the unfolded form of `Rs.strict`
(`strict_bind`), stated for an arbitrary (settled or unsettled) accumulator. What the ties of the lazy operators rest on: `foldM_bind` (a strict fold whose step
starts with `acc?` is a monadic left fold) and, for `or` / `and`, `orAnd_fold`.
-/
namespace JL.Lemmas.TieD
open JL

/-! ## `M.bind` / `>>=` -/

theorem bind_eq {α β} (x : M α) (f : α → M β) : M.bind x f = (x >>= f) := rfl

@[simp] theorem mbind_ok {α β} (l : List Json) (a : α) (f : α → M β) :
    M.bind (⟨l, .ok a⟩ : M α) f = ⟨l ++ (f a).logs, (f a).out⟩ := rfl
@[simp] theorem mbind_err {α β} (l : List Json) (f : α → M β) :
    M.bind (⟨l, .err⟩ : M α) f = ⟨l, .err⟩ := rfl
@[simp] theorem mbind_panic {α β} (l : List Json) (f : α → M β) :
    M.bind (⟨l, .panic⟩ : M α) f = ⟨l, .panic⟩ := rfl

@[simp] theorem eta {α} (x : M α) : (⟨x.logs, x.out⟩ : M α) = x := rfl
@[simp] theorem nil_eta {α} (x : M α) : (⟨[] ++ x.logs, x.out⟩ : M α) = x := rfl

/-- prefixing log lines commutes with `bind` -/
theorem prefix_bind {α β} (l : List Json) (x : M α) (f : α → M β) :
    (⟨l ++ (x >>= f).logs, (x >>= f).out⟩ : M β) = ((⟨l ++ x.logs, x.out⟩ : M α) >>= f) := by
  cases x with | mk lx o => cases o <;> simp [List.append_assoc]

/-- `Functor.map` on `M` (what `Rs.map` is on a `Result`) -/
theorem map_eq_bind {α β} (g : α → β) (x : M α) : (g <$> x) = (x >>= fun a => (pure (g a) : M β)) := rfl

/-! ## `settled` -/

@[simp] theorem settled_mk {α} (l : List Json) (o : Out α) : Rs.settled (⟨l, o⟩ : M α) = ⟨[], o⟩ := rfl
@[simp] theorem settled_logs {α} (x : M α) : (Rs.settled x).logs = [] := rfl
@[simp] theorem settled_out {α} (x : M α) : (Rs.settled x).out = x.out := rfl
theorem settled_pure {α} (a : α) : Rs.settled (pure a : M α) = pure a := rfl
theorem settled_idem {α} (x : M α) : Rs.settled (Rs.settled x) = Rs.settled x := rfl

/-- the log lines of a computation, then the continuation on its settled outcome: the continuation is a `bind` -/
theorem strict_bind {α β} (x : M α) (f : α → M β) :
    (⟨x.logs ++ (Rs.settled x >>= f).logs, (Rs.settled x >>= f).out⟩ : M β) = (x >>= f) := by
  cases x with | mk l o => cases o <;> simp

/-! ## `foldM` -/

@[simp] theorem foldM_nil {α β} (acc : M β) (f : M β → α → M β) : Rs.foldM [] acc f = acc := rfl
theorem foldM_cons {α β} (x : α) (xs : List α) (acc : M β) (f : M β → α → M β) :
    Rs.foldM (x :: xs) acc f =
      ⟨acc.logs ++ (Rs.foldM xs (f (Rs.settled acc) x) f).logs, (Rs.foldM xs (f (Rs.settled acc) x) f).out⟩ := rfl

/-- the monadic left fold: the state is threaded with `>>=` (the first failing step ends the fold) -/
def foldBind {α σ : Type} (g : σ → α → M σ) : List α → σ → M σ
  | [], s => pure s
  | x :: xs, s => g s x >>= foldBind g xs

@[simp] theorem foldBind_nil {α σ} (g : σ → α → M σ) (s : σ) : foldBind g [] s = pure s := rfl
@[simp] theorem foldBind_cons {α σ} (g : σ → α → M σ) (x : α) (xs : List α) (s : σ) :
    foldBind g (x :: xs) s = (g s x >>= foldBind g xs) := rfl

/-- a `fold` whose step starts with `let s = acc?;` is the monadic left fold, from any accumulator -/
theorem foldM_bind {α σ : Type} (f : M σ → α → M σ) (g : σ → α → M σ)
    (hf : ∀ (a : M σ) (x : α), f a x = (a >>= fun s => g s x)) :
    ∀ (xs : List α) (acc : M σ), Rs.foldM xs acc f = (acc >>= foldBind g xs)
  | [], acc => by
      show acc = (acc >>= fun s => (pure s : M σ))
      exact (M.bind_pure acc).symm
  | x :: xs, acc => by
      rw [foldM_cons, foldM_bind f g hf xs, hf]
      cases acc with | mk l o =>
      cases o with
      | ok s => simp
      | err => simp
      | panic => simp

/-- the same for a step that is an `and_then`/`?` on the accumulator, given as `M.bind` -/
theorem foldM_bind' {α σ : Type} (f : M σ → α → M σ) (g : σ → α → M σ)
    (hf : ∀ (a : M σ) (x : α), f a x = M.bind a (fun s => g s x)) (xs : List α) (acc : M σ) :
    Rs.foldM xs acc f = M.bind acc (foldBind g xs) :=
  foldM_bind f g hf xs acc

/-- The folds of `or` / `and`, whatever type the code keeps its state in: `st` reads a state as the model's `OrState`; a step leaves a
decided state alone (`hdec`) and otherwise evaluates the operand and decides on its truthiness (`hgo`). -/
theorem orAnd_fold {σ : Type} (isOr : Bool) (d : Json) (st : σ → OrState) (step : σ → Json → M σ)
    (hdec : ∀ s v x, st s = .decided v → step s x = pure s)
    (hgo : ∀ s x, (∀ v, st s ≠ .decided v) → (step s x >>= fun r => (pure (st r) : M OrState)) =
      if check x then run x d >>= fun e => pure (if truthy e == isOr then .decided e else .current e) else M.err) :
    ∀ (xs : List Json) (s : σ), (foldBind step xs s >>= fun r => (pure (st r) : M OrState)) = runOrAnd isOr xs (st s) d
  | [], s => by simp [runOrAnd]
  | x :: xs, s => by
      have ih := orAnd_fold isOr d st step hdec hgo xs
      rw [foldBind_cons, M.bind_assoc]
      simp only [ih]
      have e : (step s x >>= fun s' => runOrAnd isOr xs (st s') d)
          = ((step s x >>= fun r => (pure (st r) : M OrState)) >>= fun t => runOrAnd isOr xs t d) := by
        simp only [M.bind_assoc, M.pure_bind]
      cases h : st s
      case decided v => rw [hdec s v x h, M.pure_bind, h, runOrAnd]
      all_goals
        rw [e, hgo s x (by simp [h]), runOrAnd]
        · split
          · simp only [M.bind_assoc, M.pure_bind]
          · rfl
        -- second goal of `rw [runOrAnd]`: its equation for an undecided state has the side condition `∀ r, st ≠ .decided r`
        · intro r hr; cases hr

/-- `foldBind` is `List.foldlM` in `M` (the ties of `or`/`and`/`if` speak the former, those of the array operators the latter) -/
theorem foldBind_eq_foldlM {α σ : Type} (g : σ → α → M σ) : ∀ (xs : List α) (s : σ), foldBind g xs s = xs.foldlM g s
  | [], _ => rfl
  | x :: xs, s => by
      rw [foldBind_cons, List.foldlM_cons]
      congr 1; funext s'; exact foldBind_eq_foldlM g xs s'

theorem foldBind_congr {α σ : Type} (g g' : σ → α → M σ) (h : ∀ s x, g s x = g' s x) (xs : List α) (s : σ) :
    foldBind g xs s = foldBind g' xs s := by
  have : g = g' := by funext s x; exact h s x
  rw [this]

/-- `enumerate`: every item with its index from 0, the index first -/
theorem enumerate_eq {α} (xs : List α) : Rs.enumerate xs = (xs.zipIdx 0).map (fun p => (p.2, p.1)) := rfl

end JL.Lemmas.TieD
