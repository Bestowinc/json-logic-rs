import Lean
/-!
# A tactic for the tie theorems: unfolding translated *auxiliaries* without naming them

The translator turns a helper function that has no tie theorem of its own (a function nested in another one, or a small
top-level function that only serves one caller) into an auxiliary definition `JL.Gen.<something>`; its name follows the Rust
source (`Gen.number_eq.as_int` for a nested `fn as_int`, `Gen.aux_number_as_int` once it is hoisted and renamed). A proof
that spells that name stops compiling when a maintainer moves or renames the helper. `unfold_gen_aux` unfolds, in the goal,
every definition of the namespace `JL.Gen` that

* has no tie theorem `JL.Tie.<same name>` (those are rewritten with their tie, never unfolded), and
* is not a pattern-matching auxiliary, not a fuel-indexed recursion `….go`, not a type or a constructor,

repeatedly (an auxiliary may call another one). It fails if there is nothing to unfold (use `try`).
-/
namespace JL.Lemmas.TieTactics
open Lean Elab Tactic Meta

/-- the auxiliaries of translated code that occur in `e` -/
def genAuxConsts (env : Environment) (e : Expr) : Array Name :=
  e.getUsedConstants.filter fun c =>
    (`JL.Gen).isPrefixOf c
      && (match env.find? c with
          | some (.defnInfo _) => true
          | _ => false)
      && !(env.contains (`JL.Tie ++ (c.replacePrefix `JL.Gen .anonymous)))
      && !(c.isInternal)
      && !(match c with
           | .str _ s => s == "go" || s.startsWith "match_" || s.startsWith "_"
           | _ => true)
      && (Lean.Meta.Match.Extension.getMatcherInfo? env c).isNone

elab "unfold_gen_aux" : tactic => do
  let mut progress := false
  -- a round unfolds the auxiliaries now in the goal; 8 rounds = auxiliaries calling auxiliaries eight deep (the bound only keeps
  -- the loop finite: `number_eq`, the one tie that calls this tactic, needs one round, for its helper `as_int`)
  for _ in [0:8] do
    let g ← getMainGoal
    let t ← instantiateMVars (← g.getType)
    let cs := genAuxConsts (← getEnv) t
    if cs.isEmpty then break
    let mut stepped := false
    for c in cs do
      try
        evalTactic (← `(tactic| unfold $(mkIdent c):ident))
        stepped := true
      catch _ => pure ()
    if stepped then progress := true else break
  unless progress do
    throwError "unfold_gen_aux: no auxiliary definition of `JL.Gen` occurs in the goal"

end JL.Lemmas.TieTactics
