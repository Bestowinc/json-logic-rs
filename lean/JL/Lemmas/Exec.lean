import JL.Lemmas.Monad
import JL.Lemmas.C12
/-!
# The operators' own functions: `execEager` row by row, `execData`, and the postconditions of what they are made of

`execEager` dispatches on the operator name by a chain of `if`s. Read as a list of rows `(name, branch)` with distinct names
(`eagerRows_nodup`, the one evaluation of the name comparisons), a lookup in that chain is a membership: `execEager_row` holds all
22 equations `execEager "op".toList items = <branch>`, and

    have rows := execEager_row
    simp only [eagerRows, List.forall_mem_cons] at rows

turns them into a conjunction that `simp only [rows]` uses as rewrite rules (matching the written-out name, evaluating nothing);
for a predicate of `execEager k` at an arbitrary `k`, `execEager_chain` and `rowChain_of_rows` give one goal per row. A single
row at a written-out name is `unfold execEager; simp only [String.toList_inj, String.reduceEq, ↓reduceIte]` (as below). What
must not decide the chain is reduction (`rfl`, `decide`, `whnf`): the kernel would decode and compare the names of all
branches before it.
-/
namespace JL

/-! ## what several rows share: `numResult`, `compare` -/

theorem numResult_eq (r : Option F64) : numResult r = M.ofOption (r.bind toNumberValue) := by
  cases r <;> rfl

theorem numResult_post {np : Prop} {L : Json → Prop} {P : Json → Prop} (r : Option F64)
    (h : ∀ x w, r = some x → toNumberValue x = some w → P w) : M.Post np L P (numResult r) :=
  numResult_eq r ▸ M.post_ofOption fun w hw => by
    obtain ⟨x, rfl, hx⟩ := Option.bind_eq_some_iff.mp hw
    exact h x w rfl hx

/-- `<`, `<=`, `>`, `>=` read two or three operands: a Boolean, or the model's panic on fewer than two -/
theorem compare_post {np : Prop} {L : Json → Prop} {P : Json → Prop} (f : Json → Json → Bool) (items : List Json)
    (hn : np → 2 ≤ items.length) (hP : ∀ b, P (.bool b)) : M.Post np L P (compare f items) := by
  rcases items with _ | ⟨a, _ | ⟨b, _ | ⟨c, rest⟩⟩⟩
  · exact M.post_panic fun h => absurd (hn h) (Nat.not_succ_le_zero 1)
  · exact M.post_panic fun h => absurd (hn h) (Nat.lt_irrefl 1)
  · exact M.post_pure (hP _)
  · exact M.post_pure (hP _)

/-! ## `execEager` as a table of rows -/

/-- `if k = k₁ then g₁ items else if k = k₂ then g₂ items … else M.err` over a list of rows `(kᵢ, gᵢ)` -/
def rowChain (items : List Json) : List (Str × (List Json → M Json)) → Str → M Json
  | [], _ => M.err
  | (k', g) :: t, k => if k = k' then g items else rowChain items t k

theorem rowChain_mem (items : List Json) : ∀ (t : List (Str × (List Json → M Json))), (t.map Prod.fst).Nodup →
    ∀ p ∈ t, rowChain items t p.1 = p.2 items
  | [], _, p, hp => by cases hp
  | (k', g) :: t, hnd, p, hp => by
    rw [List.map_cons, List.nodup_cons] at hnd
    rcases List.mem_cons.1 hp with rfl | hp
    · simp only [rowChain, if_true]
    · have hne : p.1 ≠ k' := fun h => hnd.1 (List.mem_map.2 ⟨p, hp, h⟩)
      simp only [rowChain, if_neg hne]
      exact rowChain_mem items t hnd.2 p hp

theorem rowChain_of_rows {P : M Json → Prop} (herr : P M.err) {items : List Json} {k : Str} :
    ∀ {t : List (Str × (List Json → M Json))}, (∀ p ∈ t, p.1 = k → P (p.2 items)) → P (rowChain items t k)
  | [], _ => herr
  | (k', g) :: t, h => by
    unfold rowChain
    split
    next hk => exact h (k', g) List.mem_cons_self hk.symm
    next => exact rowChain_of_rows herr fun p hp => h p (List.mem_cons_of_mem _ hp)

/-- `execEager` as a table: operator name ↦ what it does with its operands (the branches of `execEager`, in its order) -/
def eagerRows : List (Str × (List Json → M Json)) := [
  ("==".toList, fun items => match items with | a :: b :: _ => pure (.bool (JsOp.abstractEq a b)) | _ => M.panic),
  ("!=".toList, fun items => match items with | a :: b :: _ => pure (.bool (JsOp.abstractNe a b)) | _ => M.panic),
  ("===".toList, fun items => match items with | a :: b :: _ => pure (.bool (JsOp.strictEq a b)) | _ => M.panic),
  ("!==".toList, fun items => match items with | a :: b :: _ => pure (.bool (JsOp.strictNe a b)) | _ => M.panic),
  ("!".toList, fun items => match items with | a :: _ => pure (.bool (!truthy a)) | _ => M.panic),
  ("!!".toList, fun items => match items with | a :: _ => pure (.bool (truthy a)) | _ => M.panic),
  ("<".toList, compare JsOp.abstractLt),
  ("<=".toList, compare JsOp.abstractLte),
  (">".toList, compare JsOp.abstractGt),
  (">=".toList, compare JsOp.abstractGte),
  ("+".toList, fun items => numResult (JsOp.parseFloatAdd items)),
  ("*".toList, fun items => numResult (JsOp.parseFloatMul items)),
  ("-".toList, fun items => match items with
    | [a] => numResult (JsOp.toNegative a)
    | a :: b :: _ => numResult (JsOp.abstractMinus a b)
    | [] => M.panic),
  ("/".toList, fun items => match items with | a :: b :: _ => numResult (JsOp.abstractDiv a b) | _ => M.panic),
  ("%".toList, fun items => match items with | a :: b :: _ => numResult (JsOp.abstractMod a b) | _ => M.panic),
  ("max".toList, fun items => numResult (JsOp.abstractMax items)),
  ("min".toList, fun items => numResult (JsOp.abstractMin items)),
  ("merge".toList, fun items => pure (.arr (ArrOp.merge items))),
  ("in".toList, fun items => match items with
    | a :: b :: _ => (match ArrOp.in_ a b with | some r => pure (.bool r) | none => M.err)
    | _ => M.panic),
  ("cat".toList, fun items => pure (.str (StrOp.cat items))),
  ("substr".toList, fun items => match items with
    | [s, i] => M.ofOption (StrOp.substr s i none)
    | s :: i :: l :: _ => M.ofOption (StrOp.substr s i (some l))
    | _ => M.panic),
  ("log".toList, fun items => match items with
    | a :: _ => do M.log a; pure a
    | _ => M.panic)]

/-- with the key a variable both sides are the same `if` chain: nothing is evaluated -/
theorem execEager_chain (k : Str) (items : List Json) : execEager k items = rowChain items eagerRows k := rfl

theorem eagerRows_nodup : (eagerRows.map Prod.fst).Nodup := by decide +kernel

theorem execEager_row : ∀ p ∈ eagerRows, ∀ items, execEager p.1 items = p.2 items :=
  fun p hp items => execEager_chain p.1 items ▸ rowChain_mem items eagerRows eagerRows_nodup p hp

theorem execData_var : execData "var".toList = var := by
  funext d items; exact if_pos rfl
theorem execData_missing : execData "missing".toList = missing := by
  funext d items; simp only [execData, String.toList_inj, String.reduceEq, ↓reduceIte]
theorem execData_missing_some : execData "missing_some".toList = missingSome := by
  funext d items; simp only [execData, String.toList_inj, String.reduceEq, ↓reduceIte]

/-! ## single rows of `execEager` -/

theorem execEager_lt (items : List Json) : execEager "<".toList items = compare JsOp.abstractLt items := by
  unfold execEager; simp only [↓reduceIte, String.toList_inj, String.reduceEq]
theorem execEager_lte (items : List Json) : execEager "<=".toList items = compare JsOp.abstractLte items := by
  unfold execEager; simp only [↓reduceIte, String.toList_inj, String.reduceEq]
theorem execEager_gt (items : List Json) : execEager ">".toList items = compare JsOp.abstractGt items := by
  unfold execEager; simp only [↓reduceIte, String.toList_inj, String.reduceEq]
theorem execEager_gte (items : List Json) : execEager ">=".toList items = compare JsOp.abstractGte items := by
  unfold execEager; simp only [↓reduceIte, String.toList_inj, String.reduceEq]

theorem execEager_not (a : Json) (rest : List Json) : execEager "!".toList (a :: rest) = pure (.bool (!truthy a)) := by
  unfold execEager; simp only [String.toList_inj, String.reduceEq, ↓reduceIte]

theorem execEager_log (vs : List Json) :
    execEager "log".toList vs = match vs with | a :: _ => (do M.log a; pure a) | _ => M.panic := by
  unfold execEager; simp only [String.toList_inj, String.reduceEq, ↓reduceIte]
  cases vs <;> rfl

theorem execEager_plus (items : List Json) :
    execEager "+".toList items = numResult (JsOp.parseFloatAdd items) := by
  unfold execEager; simp only [String.toList_inj, String.reduceEq, ↓reduceIte]
theorem execEager_times (items : List Json) :
    execEager "*".toList items = numResult (JsOp.parseFloatMul items) := by
  unfold execEager; simp only [String.toList_inj, String.reduceEq, ↓reduceIte]
theorem execEager_neg (a : Json) : execEager "-".toList [a] = numResult (JsOp.toNegative a) := by
  unfold execEager; simp only [String.toList_inj, String.reduceEq, ↓reduceIte]
/-- `rest`: the branch reads positions 0 and 1 only, like `numeric::minus` (`items[0]`, `items[1]`); the arity `1..3`
(half-open) never lets a third operand through -/
theorem execEager_minus (a b : Json) (rest : List Json) :
    execEager "-".toList (a :: b :: rest) = numResult (JsOp.abstractMinus a b) := by
  unfold execEager; simp only [String.toList_inj, String.reduceEq, ↓reduceIte]
theorem execEager_div (a b : Json) (rest : List Json) :
    execEager "/".toList (a :: b :: rest) = numResult (JsOp.abstractDiv a b) := by
  unfold execEager; simp only [String.toList_inj, String.reduceEq, ↓reduceIte]
theorem execEager_mod (a b : Json) (rest : List Json) :
    execEager "%".toList (a :: b :: rest) = numResult (JsOp.abstractMod a b) := by
  unfold execEager; simp only [String.toList_inj, String.reduceEq, ↓reduceIte]
theorem execEager_max (items : List Json) :
    execEager "max".toList items = numResult (JsOp.abstractMax items) := by
  unfold execEager; simp only [String.toList_inj, String.reduceEq, ↓reduceIte]
theorem execEager_min (items : List Json) :
    execEager "min".toList items = numResult (JsOp.abstractMin items) := by
  unfold execEager; simp only [String.toList_inj, String.reduceEq, ↓reduceIte]

/-! ## predicates on values that evaluation preserves -/

/-- a predicate on values that the plumbing of the interpreter preserves (what the walk `Lemmas.C01.run_post` asks of it) -/
structure Preserved (W : Json → Prop) : Prop where
  null : W .null
  bool (b : Bool) : W (.bool b)
  str (s : Str) : W (.str s)
  arr {xs : List Json} : W (.arr xs) ↔ ∀ x ∈ xs, W x
  operand {k : Str} {v : Json} : W (.obj [(k, v)]) → W v
  reduceCtx {a c : Json} : W a → W c → W (reduceCtx a c)
  getKey {d : Json} {key : Data.Key} {v : Json} : W d → Data.getKey d key = some v → W v

theorem preserved_true : Preserved fun _ => True :=
  ⟨trivial, fun _ => trivial, fun _ => trivial, by simp, fun _ => trivial, fun _ _ => trivial, fun _ _ => trivial⟩

/-! ## the data operators: what they return is the data, a sub-value of it, an operand, or made of operands; they log
nothing, so the predicate `L` on log lines is arbitrary. The folds of `missing`/`missing_some` are read through their step
equations and closed form in `Lemmas/C12`. -/

variable {np : Prop} {L W : Json → Prop}

theorem var_post (hW : Preserved W) {d : Json} (hd : W d) {items : List Json} (hi : ∀ i ∈ items, W i) :
    M.Post np L W (var d items) := by
  unfold var
  split
  · exact M.post_pure hd
  · rename_i k rest
    split
    · exact M.post_err
    · split
      · exact M.post_pure (hW.getKey hd ‹_›)
      · refine M.post_pure ?_
        split
        · exact hW.null
        · exact hi _ (.tail _ (.head _))

theorem missingFold_post (d : Json) (args acc : List Json) (ha : ∀ a ∈ args, W a) (hacc : ∀ a ∈ acc, W a) :
    M.Post np L (fun r => ∀ x ∈ r, W x) (missingFold d args acc) := by
  rw [Lemmas.C12.missingFold_eq]
  exact M.post_ite (fun _ => M.post_pure (List.forall_mem_append.mpr ⟨hacc, fun x hx => ha x (List.mem_filter.mp hx).1⟩))
    fun _ => M.post_err

theorem missing_post (hW : Preserved W) (d : Json) {items : List Json} (hi : ∀ i ∈ items, W i) :
    M.Post np L W (missing d items) := by
  unfold missing
  refine M.post_bind (missingFold_post d _ _ ?_ nofun) fun ks hks => M.post_pure (hW.arr.mpr hks)
  split
  · exact hW.arr.mp (hi _ (.head _))
  · exact hi

theorem missingSomeFold_post (d : Json) (t : Nat) : ∀ (keys : List Json) (st : Nat × List Json),
    (∀ a ∈ keys, W a) → (∀ a ∈ st.2, W a) → M.Post np L (fun st' => ∀ a ∈ st'.2, W a) (missingSomeFold d t keys st)
  | [], st, _, hst => M.post_pure hst
  | key :: rest, (count, miss), hk, hst => by
    have hrest : ∀ a ∈ rest, W a := fun a ha => hk a (.tail _ ha)
    rw [Lemmas.C12.missingSomeFold_cons]
    refine M.post_ite (fun _ => missingSomeFold_post d t rest _ hrest hst) fun _ => M.post_ite (fun _ => M.post_err) fun _ =>
      missingSomeFold_post d t rest _ hrest ?_
    -- the new list of missing keys is the old one, or the old one with `key` appended
    refine ite_intro (P := fun m : List Json => ∀ a ∈ m, W a)
      (fun _ => ite_intro (P := fun m : List Json => ∀ a ∈ m, W a) (fun _ => hst) fun _ => ?_) fun _ => hst
    exact List.forall_mem_append.mpr ⟨hst, List.forall_mem_singleton.mpr (hk key (.head _))⟩

/-- `missing_some` reads two operands (the arity table admits exactly two) -/
theorem missingSome_post (hW : Preserved W) (d : Json) {items : List Json} (hn : np → 2 ≤ items.length)
    (hi : ∀ i ∈ items, W i) : M.Post np L W (missingSome d items) := by
  unfold missingSome
  split
  · rename_i thr keysArg rest
    split
    · exact M.post_err
    · split
      · refine M.post_bind (missingSomeFold_post d _ _ (0, []) (hW.arr.mp (hi _ (.tail _ (.head _)))) nofun) ?_
        rintro ⟨count, miss⟩ hm
        refine M.post_pure (hW.arr.mpr ?_)
        split
        · exact nofun
        · exact hm
      · exact M.post_err
  · rename_i hshort
    refine M.post_panic fun h => ?_
    obtain ⟨a, b, rest, rfl⟩ := two_le items (hn h)
    exact hshort a b rest rfl

theorem execData_post (hW : Preserved W) (k : Str) {d : Json} {items : List Json}
    (hn : np → k = "missing_some".toList → 2 ≤ items.length) (hd : W d) (hi : ∀ i ∈ items, W i) :
    M.Post np L W (execData k d items) := by
  unfold execData
  split
  · exact var_post hW hd hi
  · split
    · exact missing_post hW d hi
    · split
      · exact missingSome_post hW d (fun h => hn h ‹_›) hi
      · exact M.post_err

end JL
