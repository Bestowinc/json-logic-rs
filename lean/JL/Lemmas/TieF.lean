import JL.Eval
import JL.Lemmas.List
/-!
# Helper lemmas for the tie theorems of the operator tables (`JL/Tie/tables.lean`)

The operand lists of an admitted count are taken apart in the table proofs by one `rcases`; `len1` … `len23` state the same
shapes as lemmas.
-/
namespace JL.Lemmas.TieF
open JL

theorem len1 {α} (xs : List α) (h : xs.length = 1) : ∃ a, xs = [a] := by
  match xs, h with
  | [a], _ => exact ⟨a, rfl⟩

theorem len2 {α} (xs : List α) (h : xs.length = 2) : ∃ a b, xs = [a, b] := length_eq_two h

theorem len3 {α} (xs : List α) (h : xs.length = 3) : ∃ a b c, xs = [a, b, c] := length_eq_three h

/-- `lo..hi` with `lo = 2`, `hi = 4` -/
theorem len23 {α} (xs : List α) (h1 : 2 ≤ xs.length) (h2 : xs.length < 4) :
    (∃ a b, xs = [a, b]) ∨ (∃ a b c, xs = [a, b, c]) := by
  match xs, h1, h2 with
  | [a, b], _, _ => exact .inl ⟨a, b, rfl⟩
  | [a, b, c], _, _ => exact .inr ⟨a, b, c, rfl⟩
  | _ :: _ :: _ :: _ :: _, _, h => simp at h; omega

/-- the arity descriptor a key has in the regenerated table, learnt by evaluating `lookupOp` on the key -/
theorem arity_eq {k : Str} {kind : Kind} {ar a : Arity} (hl : lookupOp k = some (kind, ar)) (h : lookupOp k = some (kind, a)) : a = ar := by
  rw [h] at hl; simpa using hl

end JL.Lemmas.TieF
