import JL.JsOp
import JL.Spec.ESNum
import JL.Lemmas.Round
/-!
# Lemmas relating the scanners of `JL/JsOp.lean` to the grammar reading in `JL/Spec/ESNum.lean`

Characters and digit runs first. Then the unsigned decimal literal: `lit_spec` says that what the grammar reads at the
front of a text is a `DecLit` (the literal's text made explicit, with its MV) and that the model's `decimal_literal_len`
is the length of that text; `rust_lit` evaluates Rust's `f64::from_str` on a `DecLit`. `parse_float_string` and the decimal
branch of `str_to_number` follow from these two. Last, the alphabet of a literal's text (`RoundTrip.NumChar`): ASCII, no white
space, no radix letter.
-/
namespace JL.Lemmas.StrNum
open JL JL.JsOp JL.Spec

/-! ## characters -/

/-- the code-point table of the standard is two ranges and nine single points -/
theorem ws_table : ES.strWhiteSpaceCodePoints =
    List.range' 9 5 ++ [0x20, 0xA0, 0x1680] ++ List.range' 0x2000 11 ++
      [0x2028, 0x2029, 0x202F, 0x205F, 0x3000, 0xFEFF] := by decide

theorem ws_eq (c : Char) : ES.isStrWhiteSpaceChar c = isJsWhitespace c := by
  -- membership in the ranges unfolds to the model's comparisons; what is left differs by bracketing only
  simp only [ES.isStrWhiteSpaceChar, isJsWhitespace, ws_table, List.contains_eq_mem, List.mem_append,
    List.mem_range'_1, List.mem_cons, List.not_mem_nil, or_false, Nat.lt_succ_iff, Bool.decide_or,
    Bool.decide_and, Nat.reduceAdd, Bool.or_assoc, Bool.beq_eq_decide_eq]

theorem skipWS_eq (s : Str) : ES.skipWhiteSpace s = trimStart s := by
  induction s with
  | nil => rfl
  | cons c cs ih => simp [ES.skipWhiteSpace, trimStart, List.dropWhile_cons, ws_eq, ih]

theorem strip_eq (s : Str) : ES.strip s = trimBoth s := by
  simp [ES.strip, trimBoth, trimEnd, skipWS_eq, trimStart]

theorem isDigit_iff (c : Char) : isDigit c = true ↔ 48 ≤ c.toNat ∧ c.toNat ≤ 57 := by
  simp [isDigit, Char.le_def, UInt32.le_iff_toNat_le]

/-- two digit readers that accept characters from `'0'` to `'f'` only agree everywhere if they agree on these. The readers of
the grammar are matches on character literals: each arm lies in the window by `decide`, the fall-through arm is `none`. -/
theorem digit_ext (f g : Char → Option Nat) (hf : ∀ c, f c ≠ none → 48 ≤ c.toNat ∧ c.toNat < 103)
    (hg : ∀ c, g c ≠ none → 48 ≤ c.toNat ∧ c.toNat < 103)
    (h : ∀ n, n < 103 → 48 ≤ n → f (Char.ofNat n) = g (Char.ofNat n)) (c : Char) : f c = g c := by
  by_cases hc : 48 ≤ c.toNat ∧ c.toNat < 103
  · simpa using h c.toNat hc.2 hc.1
  · rw [Classical.not_not.mp (mt (hf c) hc), Classical.not_not.mp (mt (hg c) hc)]

theorem decimalDigit_eq (c : Char) :
    ES.decimalDigit? c = if isDigit c then some (digitVal c) else none := by
  refine digit_ext _ (fun c => if isDigit c then some (digitVal c) else none) ?_ ?_ (by decide +kernel) c
  · intro c h
    unfold ES.decimalDigit? at h
    split at h <;> first | decide | exact absurd rfl h
  · intro c h
    have := (isDigit_iff c).mp (Classical.not_not.mp fun hd => h (if_neg hd))
    omega

/-- the digits of a radix up to 16 lie between `'0'` and `'f'` -/
theorem toDigit_window (r : Nat) (hr : r ≤ 16) (c : Char) (h : toDigit r c ≠ none) :
    48 ≤ c.toNat ∧ c.toNat < 103 := by
  apply Classical.byContradiction
  intro hc
  apply h
  simp only [toDigit, Char.reduceToNat, Bool.and_eq_true, decide_eq_true_eq]
  by_cases h1 : c.toNat < 48
  · rw [if_neg (by omega), if_neg (by omega), if_neg (by omega)]
  · -- `c` is `'g'` or later: a letter from there on has value 16 or more
    rw [if_neg (by omega)]
    split
    · rename_i d hd
      split at hd
      · cases hd; rw [if_neg (by omega)]
      · rw [if_neg (by omega)] at hd; cases hd
    · rfl

theorem toDigit_hex (c : Char) : toDigit 16 c = ES.hexDigit? c := by
  refine digit_ext _ _ (toDigit_window 16 (by decide)) ?_ (by decide +kernel) c
  intro c h
  unfold ES.hexDigit? at h
  split at h <;> first | decide | exact absurd rfl h
theorem toDigit_oct (c : Char) : toDigit 8 c = ES.octalDigit? c := by
  refine digit_ext _ _ (toDigit_window 8 (by decide)) ?_ (by decide +kernel) c
  intro c h
  unfold ES.octalDigit? at h
  split at h <;> first | decide | exact absurd rfl h
theorem toDigit_bin (c : Char) : toDigit 2 c = ES.binaryDigit? c := by
  refine digit_ext _ _ (toDigit_window 2 (by decide)) ?_ (by decide +kernel) c
  intro c h
  unfold ES.binaryDigit? at h
  split at h <;> first | decide | exact absurd rfl h

theorem toDigit_lt {r : Nat} {c : Char} {d : Nat} (h : toDigit r c = some d) : d < r := by
  simp only [toDigit] at h
  split at h
  · split at h
    · cases h; assumption
    · cases h
  · cases h

/-! ## digit runs -/

theorem decimalDigits_eq (s : Str) :
    ES.decimalDigits s = ((s.takeWhile isDigit).map digitVal, s.dropWhile isDigit) := by
  induction s with
  | nil => rfl
  | cons c cs ih =>
    simp only [ES.decimalDigits, decimalDigit_eq, ih, List.takeWhile_cons, List.dropWhile_cons]
    cases isDigit c <;> simp

theorem mv_map (cs : Str) : ES.mv 10 (cs.map digitVal) = digitsVal cs := by
  simp [ES.mv, digitsVal, List.foldl_map]

theorem mv_cons (c : Char) (cs : Str) :
    ES.mv 10 (digitVal c :: cs.map digitVal) = digitsVal (c :: cs) := mv_map (c :: cs)

theorem takeWhile_dropWhile_nil (p : Char → Bool) (s : Str) : (s.dropWhile p).takeWhile p = [] := by
  induction s with
  | nil => rfl
  | cons c cs ih =>
    simp only [List.dropWhile_cons]
    split
    · exact ih
    · simp [*]

/-! ## the model's `decimal_literal_len`, cut into mantissa and exponent scans -/

/-- the first half of `decimalLiteralLen`: the digit count and the length of `digits [. digits]` at the front of `s` -/
def mantScan (s : Str) : Nat × Nat :=
  match s.drop (digitsLen s) with
  | '.' :: fr =>
      if digitsLen s + digitsLen fr > 0 then (digitsLen s + digitsLen fr, digitsLen s + 1 + digitsLen fr)
      else (digitsLen s + digitsLen fr, digitsLen s)
  | _ => (digitsLen s, digitsLen s)

/-- the second half: the length of an exponent part `e [+-] digits` at the front of the text, 0 if there is none -/
def expScan : Str → Nat
  | e :: rest =>
      if e == 'e' || e == 'E' then
        let p : Nat × Str :=
          match rest with
          | sgn :: r => if sgn == '+' || sgn == '-' then (1, r) else (0, rest)
          | [] => (0, rest)
        if digitsLen p.2 > 0 then 1 + p.1 + digitsLen p.2 else 0
      else 0
  | [] => 0

theorem decimalLiteralLen_eq (s : Str) :
    decimalLiteralLen s =
      if (mantScan s).1 = 0 then 0 else (mantScan s).2 + expScan (s.drop (mantScan s).2) := by
  -- by definition the left side is its body with `mantScan s` for the let-bound pair; the rest holds of any pair
  have tail (p : Nat × Nat) : (if (p.1 == 0) = true then 0 else
      match s.drop p.2 with
      | e :: rest =>
          if (e == 'e' || e == 'E') = true then
            let q : Nat × Str :=
              match rest with
              | sgn :: r => if (sgn == '+' || sgn == '-') = true then (1, r) else (0, rest)
              | [] => (0, rest)
            if digitsLen q.2 > 0 then p.2 + 1 + q.1 + digitsLen q.2 else p.2
          else p.2
      | [] => p.2) = if p.1 = 0 then 0 else p.2 + expScan (s.drop p.2) := by
    simp only [beq_iff_eq]
    split
    · rfl
    · cases s.drop p.2 with
      | nil => rfl
      | cons e rest =>
        simp only [expScan]
        split
        · rw [apply_ite (p.2 + ·)]
          simp only [Nat.add_assoc, Nat.add_zero]
        · rfl
  exact tail (mantScan s)

/-! ## the grammar reading, restated on `takeWhile` / `dropWhile` -/

theorem mantissa_eq (s : Str) : ES.decimalMantissa s =
    match s.dropWhile isDigit with
    | '.' :: t =>
        if (s.takeWhile isDigit).length + (t.takeWhile isDigit).length = 0 then none
        else some (digitsVal (s.takeWhile isDigit ++ t.takeWhile isDigit), (t.takeWhile isDigit).length,
                   t.dropWhile isDigit)
    | r1 => if (s.takeWhile isDigit).length = 0 then none else some (digitsVal (s.takeWhile isDigit), 0, r1) := by
  unfold ES.decimalMantissa
  simp only [decimalDigits_eq]
  generalize s.takeWhile isDigit = I
  generalize s.dropWhile isDigit = r1
  -- the four arms of `ES.decimalMantissa`, in order: ".F" (no integer digits), neither a digit nor a dot, "I.F", "I"
  split
  · rename_i h
    simp at h
    obtain ⟨rfl, rfl⟩ := h
    simp only []
    generalize List.takeWhile isDigit _ = F
    cases F <;> simp [mv_cons]
  · rename_i h1 h2
    simp at h2
    obtain ⟨rfl, rfl⟩ := h2
    split
    · exact absurd rfl (fun h => h1 _ h)
    · simp
  · rename_i h1 h2
    simp at h2
    obtain ⟨rfl, rfl⟩ := h2
    have hI : I ≠ [] := by intro h; subst h; exact h1 rfl
    simp only [← List.map_append, mv_map, List.length_map]
    cases I <;> simp_all
  · rename_i h1 h2 h3
    simp at h3
    obtain ⟨rfl, rfl⟩ := h3
    have hI : I ≠ [] := by intro h; subst h; exact h1 rfl
    split
    · exact absurd rfl (fun h => h2 _ h)
    · cases I <;> simp_all [mv_cons]

theorem exponentPart_eq (c : Char) (r : Str) : ES.exponentPart (c :: r) =
    if c = 'e' ∨ c = 'E' then
      if (ES.sign r).2.takeWhile isDigit = [] then none
      else some (if (ES.sign r).1 then -(digitsVal ((ES.sign r).2.takeWhile isDigit) : Int)
                  else (digitsVal ((ES.sign r).2.takeWhile isDigit) : Int), (ES.sign r).2.dropWhile isDigit)
    else none := by
  simp only [ES.exponentPart]
  split
  · rw [decimalDigits_eq]
    generalize (ES.sign r).2.takeWhile isDigit = D
    cases D <;> simp [mv_cons]
  · rfl

theorem sign_cons (c : Char) (r : Str) (h1 : c ≠ '+') (h2 : c ≠ '-') : ES.sign (c :: r) = (false, c :: r) := by
  unfold ES.sign
  split
  · rename_i heq; exact absurd (List.cons.inj heq).1 h1
  · rename_i heq; exact absurd (List.cons.inj heq).1 h2
  · rfl

theorem expScan_eq (c : Char) (r : Str) : expScan (c :: r) =
    if c = 'e' ∨ c = 'E' then
      if (ES.sign r).2.takeWhile isDigit = [] then 0
      else 1 + (r.length - (ES.sign r).2.length) + ((ES.sign r).2.takeWhile isDigit).length
    else 0 := by
  simp only [expScan, digitsLen]
  rcases r with _ | ⟨x, u⟩
  · simp [ES.sign]
  · by_cases h1 : x = '+'
    · subst h1; simp [ES.sign]; generalize List.takeWhile isDigit u = D; cases D <;> simp <;> omega
    · by_cases h2 : x = '-'
      · subst h2; simp [ES.sign]; generalize List.takeWhile isDigit u = D; cases D <;> simp <;> omega
      · simp [sign_cons x u h1 h2, h1, h2]; generalize List.takeWhile isDigit (x :: u) = D; cases D <;> simp <;> omega

theorem drop_digitsLen (s : Str) : s.drop (digitsLen s) = s.dropWhile isDigit := by
  unfold digitsLen
  induction s with
  | nil => rfl
  | cons c cs ih => cases h : isDigit c <;> simp [h, ih]

theorem take_digitsLen (s : Str) : s.take (digitsLen s) = s.takeWhile isDigit := by
  unfold digitsLen
  induction s with
  | nil => rfl
  | cons c cs ih => cases h : isDigit c <;> simp [h, ih]

theorem mantScan_eq (s : Str) : mantScan s =
    match s.dropWhile isDigit with
    | '.' :: t =>
        if (s.takeWhile isDigit).length + (t.takeWhile isDigit).length = 0 then (0, (s.takeWhile isDigit).length)
        else ((s.takeWhile isDigit).length + (t.takeWhile isDigit).length,
              (s.takeWhile isDigit).length + 1 + (t.takeWhile isDigit).length)
    | _ => ((s.takeWhile isDigit).length, (s.takeWhile isDigit).length) := by
  unfold mantScan
  rw [drop_digitsLen]
  split
  · -- both sides test the same digit count, the model for `> 0`, the restatement for `= 0`
    simp only [digitsLen, gt_iff_lt, Nat.pos_iff_ne_zero, ite_not]
    split
    · rename_i h; rw [h]
    · rfl
  · rfl

/-! ## explicit shape of what the grammar reading consumes, and the model's count of it -/

/-- `sg` is the text of an optional sign, `neg` whether it is `-` -/
def SignLit (sg : Str) (neg : Bool) : Prop :=
  (sg = [] ∧ neg = false) ∨ (sg = ['+'] ∧ neg = false) ∨ (sg = ['-'] ∧ neg = true)

/-- `X` is the text of an optional exponent part of value `ev` -/
def ExpLit (X : Str) (ev : Int) : Prop :=
  (X = [] ∧ ev = 0) ∨
  ∃ c sg neg D, X = c :: (sg ++ D) ∧ (c = 'e' ∨ c = 'E') ∧ SignLit sg neg ∧ D ≠ [] ∧
    (∀ d ∈ D, isDigit d = true) ∧ ev = if neg then -(digitsVal D : Int) else (digitsVal D : Int)

theorem ExpLit.nil : ExpLit [] 0 := Or.inl ⟨rfl, rfl⟩

theorem ExpLit.cons {c : Char} {sg D : Str} {neg : Bool} (hc : c = 'e' ∨ c = 'E') (hsg : SignLit sg neg) (hne : D ≠ [])
    (hD : ∀ d ∈ D, isDigit d = true) :
    ExpLit (c :: (sg ++ D)) (if neg then -(digitsVal D : Int) else (digitsVal D : Int)) :=
  Or.inr ⟨c, sg, neg, D, rfl, hc, hsg, hne, hD, rfl⟩

theorem mem_takeWhile_digit (s : Str) : ∀ c ∈ s.takeWhile isDigit, isDigit c = true := by
  induction s with
  | nil => simp
  | cons a s ih =>
    intro c hc
    simp only [List.takeWhile_cons] at hc
    split at hc
    · rcases List.mem_cons.mp hc with rfl | h
      · assumption
      · exact ih c h
    · simp at hc

theorem sign_shape (r : Str) : ∃ sg, r = sg ++ (ES.sign r).2 ∧ SignLit sg (ES.sign r).1 := by
  unfold ES.sign
  split
  · exact ⟨['+'], by simp [SignLit]⟩
  · exact ⟨['-'], by simp [SignLit]⟩
  · exact ⟨[], by simp [SignLit]⟩

/-- `L` is the text of an unsigned decimal literal (not `Infinity`) whose MV is `m · 10^e`:
digits, an optional dot and more digits, at least one digit in all, an optional exponent part -/
def DecLit (L : Str) (m : Nat) (e : Int) : Prop :=
  ∃ (I F : Str) (dot : Bool) (X : Str) (ev : Int),
    L = I ++ ((if dot then '.' :: F else []) ++ X) ∧ (∀ c ∈ I, isDigit c = true) ∧
    (∀ c ∈ F, isDigit c = true) ∧ 0 < I.length + F.length ∧ (dot = false → F = []) ∧
    m = digitsVal (I ++ F) ∧ ExpLit X ev ∧ e = ev - (F.length : Int)

theorem DecLit.mk {I F X : Str} {dot : Bool} {ev : Int} {m : Nat} {e : Int} (hI : ∀ c ∈ I, isDigit c = true)
    (hF : ∀ c ∈ F, isDigit c = true) (hpos : 0 < I.length + F.length) (hdot : dot = false → F = []) (hX : ExpLit X ev)
    (hm : m = digitsVal (I ++ F)) (he : e = ev - (F.length : Int)) :
    DecLit (I ++ ((if dot then '.' :: F else []) ++ X)) m e :=
  ⟨I, F, dot, X, ev, rfl, hI, hF, hpos, hdot, hm, hX, he⟩

theorem DecLit.ne_nil {L : Str} {m : Nat} {e : Int} (h : DecLit L m e) : L ≠ [] := by
  obtain ⟨I, F, dot, X, ev, rfl, -, -, hpos, hdot, -⟩ := h
  intro h0
  cases dot <;> simp_all

/-- Where the grammar reads no exponent part the model's scan counts no character; an exponent part it reads is
`e`, a sign, a non-empty digit run, and the model's scan counts exactly these characters. -/
theorem exp_spec (r : Str) :
    (ES.exponentPart r = none ∧ expScan r = 0) ∨
    ∃ e rest X, ES.exponentPart r = some (e, rest) ∧ r = X ++ rest ∧ ExpLit X e ∧ expScan r = X.length := by
  cases r with
  | nil => exact Or.inl ⟨rfl, rfl⟩
  | cons c r =>
    obtain ⟨sg, hr, hsg⟩ := sign_shape r
    have hs := List.takeWhile_append_dropWhile (p := isDigit) (l := (ES.sign r).2)
    rw [exponentPart_eq, expScan_eq]
    by_cases hc : c = 'e' ∨ c = 'E'
    · rw [if_pos hc, if_pos hc]
      by_cases hD : (ES.sign r).2.takeWhile isDigit = []
      · rw [if_pos hD, if_pos hD]
        exact Or.inl ⟨rfl, rfl⟩
      · rw [if_neg hD, if_neg hD]
        refine Or.inr ⟨_, _, c :: (sg ++ (ES.sign r).2.takeWhile isDigit), rfl, ?_,
          .cons hc hsg hD (mem_takeWhile_digit _), ?_⟩
        · rw [List.cons_append, List.append_assoc, hs, ← hr]
        · have := congrArg List.length hr
          simp only [List.length_cons, List.length_append] at this ⊢
          omega
    · rw [if_neg hc, if_neg hc]
      exact Or.inl ⟨rfl, rfl⟩

/-- A mantissa the grammar reads is a digit run, possibly a dot and a second run, at least one digit in all, and the model's
scan returns the digit count and the length of this text; where the grammar reads none, the model counts no digit. -/
theorem mant_spec (s : Str) :
    (ES.decimalMantissa s = none ∧ (mantScan s).1 = 0) ∨
    ∃ (r I F : Str) (dot : Bool), ES.decimalMantissa s = some (digitsVal (I ++ F), F.length, r) ∧
      s = I ++ ((if dot then '.' :: F else []) ++ r) ∧ (∀ c ∈ I, isDigit c = true) ∧
      (∀ c ∈ F, isDigit c = true) ∧ 0 < I.length + F.length ∧ (dot = false → F = []) ∧
      mantScan s = (I.length + F.length, (I ++ if dot then '.' :: F else []).length) := by
  rw [mantissa_eq, mantScan_eq]
  have hs := List.takeWhile_append_dropWhile (p := isDigit) (l := s)
  have hI := mem_takeWhile_digit s
  generalize s.takeWhile isDigit = I at *
  generalize s.dropWhile isDigit = r1 at *
  subst hs
  split
  · rename_i t
    have hs2 := List.takeWhile_append_dropWhile (p := isDigit) (l := t)
    have hF := mem_takeWhile_digit t
    generalize t.takeWhile isDigit = F at *
    generalize t.dropWhile isDigit = r2 at *
    subst hs2
    by_cases h0 : I.length + F.length = 0
    · rw [if_pos h0, if_pos h0]
      exact Or.inl ⟨rfl, rfl⟩
    · rw [if_neg h0, if_neg h0]
      exact Or.inr ⟨r2, I, F, true, rfl, by simp, hI, hF, by omega, by simp, by simp; omega⟩
  · by_cases h0 : I.length = 0
    · rw [if_pos h0, h0]
      exact Or.inl ⟨rfl, rfl⟩
    · rw [if_neg h0]
      exact Or.inr ⟨r1, I, [], false, by simp, by simp, hI, by simp, by simp; omega, by simp, by simp⟩

/-- What the grammar reads as an unsigned decimal literal at the front of `s` is a `DecLit` text, and
`decimal_literal_len` is its length; where the grammar reads none, `decimal_literal_len` is 0. -/
theorem lit_spec (s : Str) :
    (ES.unsignedDecimalLiteral s = none ∧ decimalLiteralLen s = 0) ∨
    ∃ m e rest L, ES.unsignedDecimalLiteral s = some (m, e, rest) ∧ s = L ++ rest ∧ DecLit L m e ∧
      decimalLiteralLen s = L.length := by
  rw [decimalLiteralLen_eq]
  unfold ES.unsignedDecimalLiteral
  rcases mant_spec s with ⟨hm, h0⟩ | ⟨r, I, F, dot, hm, hs, hI, hF, hpos, hdot, hscan⟩
  · rw [hm, if_pos h0]
    exact Or.inl ⟨rfl, rfl⟩
  · have hdrop : s.drop (mantScan s).2 = r := by
      rw [hscan, hs, ← List.append_assoc]
      exact List.drop_left
    rw [hm, hdrop, hscan, if_neg (by simp only; omega)]
    simp only []
    right
    rcases exp_spec r with ⟨he, h0⟩ | ⟨e, rest, X, he, rfl, hX, hlen⟩
    · rw [he, h0]
      exact ⟨_, _, r, I ++ ((if dot then '.' :: F else []) ++ []), rfl, by simpa using hs,
        .mk hI hF hpos hdot .nil rfl (by simp), by simp⟩
    · rw [he, hlen]
      exact ⟨_, _, rest, I ++ ((if dot then '.' :: F else []) ++ X), rfl, by simpa using hs,
        .mk hI hF hpos hdot hX rfl rfl, by simp [Nat.add_assoc]⟩

/-! ## the converse of `lit_spec` -/

/-- a digit is none of the other characters of a literal (`hd` by `rfl`) -/
theorem digit_ne {c d : Char} (h : isDigit c = true) (hd : isDigit d = false) : c ≠ d :=
  fun e => by rw [e, hd] at h; cases h

theorem lower_digit (c : Char) (h : isDigit c = true) : lower c = c := by
  have := (isDigit_iff c).mp h
  refine if_neg ?_
  simp [Char.le_def, UInt32.le_iff_toNat_le]
  intro h1; have : c.toNat = c.val.toNat := rfl; omega

theorem takeWhile_digits_append (I t : Str) (hI : ∀ c ∈ I, isDigit c = true) (ht : t.takeWhile isDigit = []) :
    (I ++ t).takeWhile isDigit = I := by
  rw [List.takeWhile_append_of_pos hI, ht, List.append_nil]

theorem expLit_head {X : Str} {ev : Int} (h : ExpLit X ev) :
    X.takeWhile isDigit = [] ∧ ∀ t, X ≠ '.' :: t := by
  rcases h with ⟨rfl, -⟩ | ⟨c, sg, neg, D, rfl, hc, -⟩
  · simp
  · rcases hc with rfl | rfl <;> simp [List.takeWhile_cons] <;> decide

theorem dropWhile_digits_append (I t : Str) (hI : ∀ c ∈ I, isDigit c = true) (ht : t.takeWhile isDigit = []) :
    (I ++ t).dropWhile isDigit = t := by
  rw [List.dropWhile_append_of_pos hI]
  cases t with
  | nil => rfl
  | cons x t =>
    apply List.dropWhile_cons_of_neg
    intro hx
    simp [hx] at ht

theorem expLit_parse {X : Str} {ev : Int} (hX : ExpLit X ev) :
    ES.exponentPart X = if X = [] then none else some (ev, []) := by
  rcases hX with ⟨rfl, rfl⟩ | ⟨c, sg, neg, D, rfl, hc, hsg, hne, hD, rfl⟩
  · rfl
  · rw [exponentPart_eq, if_pos hc]
    obtain ⟨d, D', rfl⟩ : ∃ d D', D = d :: D' := by cases D <;> simp_all
    have hd := hD d (by simp)
    have hsign : ES.sign (sg ++ d :: D') = (neg, d :: D') := by
      rcases hsg with ⟨rfl, rfl⟩ | ⟨rfl, rfl⟩ | ⟨rfl, rfl⟩
      · exact sign_cons d D' (digit_ne hd rfl) (digit_ne hd rfl)
      · rfl
      · rfl
    have htw := takeWhile_digits_append (d :: D') [] hD rfl
    have hdw := dropWhile_digits_append (d :: D') [] hD rfl
    rw [List.append_nil] at htw hdw
    simp only [hsign, htw, hdw]
    simp

/-- the grammar reads the text of a decimal literal whole, with its MV -/
theorem lit_parse {L : Str} {m : Nat} {e : Int} (h : DecLit L m e) : ES.unsignedDecimalLiteral L = some (m, e, []) := by
  obtain ⟨I, F, dot, X, ev, rfl, hI, hF, hpos, hdot, rfl, hX, rfl⟩ := h
  obtain ⟨hX1, hX2⟩ := expLit_head hX
  unfold ES.unsignedDecimalLiteral
  have hm : ES.decimalMantissa (I ++ ((if dot then '.' :: F else []) ++ X)) =
      some (digitsVal (I ++ F), F.length, X) := by
    rw [mantissa_eq]
    cases dot with
    | true =>
      simp only [if_true, List.cons_append]
      have hdotR : ('.' :: (F ++ X)).takeWhile isDigit = [] := List.takeWhile_cons_of_neg (by decide)
      rw [takeWhile_digits_append I _ hI hdotR, dropWhile_digits_append I _ hI hdotR]
      simp only [takeWhile_digits_append F _ hF hX1, dropWhile_digits_append F _ hF hX1]
      rw [if_neg (by omega)]
    | false =>
      obtain rfl := hdot rfl
      simp only [Bool.false_eq_true, if_false, List.nil_append, List.append_nil]
      rw [takeWhile_digits_append I _ hI hX1, dropWhile_digits_append I _ hI hX1]
      split
      · exact absurd rfl (hX2 _)
      · rw [if_neg (by simp at hpos; omega)]; rfl
  rw [hm]
  simp only [expLit_parse hX]
  by_cases hXe : X = []
  · subst hXe
    rcases hX with ⟨-, rfl⟩ | ⟨c, sg, neg, D, h, -⟩
    · simp
    · simp at h
  · simp [hXe]

theorem decLit_head {L : Str} {m : Nat} {e : Int} (h : DecLit L m e) :
    ∃ c r, L = c :: r ∧ (isDigit c = true ∨ c = '.') := by
  obtain ⟨I, F, dot, X, ev, rfl, hI, -, hpos, hdot, -⟩ := h
  cases I with
  | cons i I' => exact ⟨i, _, rfl, .inl (hI i (by simp))⟩
  | nil =>
    cases dot with
    | true => exact ⟨'.', _, rfl, .inr rfl⟩
    | false => obtain rfl := hdot rfl; simp at hpos

/-! ## Rust `f64::from_str` on a validated unsigned decimal literal -/

/-- `rustParseF64` from the exponent on, mantissa and fraction length given -/
def rustTail (mant : Nat) (nf : Nat) (r2 : Str) : Option F64 :=
  match r2 with
  | [] => some (F64.ofDecimal false mant (-(nf : Int)))
  | e :: r3 =>
      if e == 'e' || e == 'E' then
        let (eneg, ds) : Bool × Str :=
          match r3 with
          | '-' :: r => (true, r)
          | '+' :: r => (false, r)
          | r => (false, r)
        if ds.isEmpty || !ds.all isDigit then none
        else
          let ev : Int := digitsVal ds
          some (F64.ofDecimal false mant ((if eneg then -ev else ev) - (nf : Int)))
      else none

/-- `rustParseF64` after its sign and keyword stages -/
def rustBody (u : Str) : Option F64 :=
  let intDs := u.takeWhile isDigit
  let r1 := u.drop intDs.length
  let (fracDs, r2) : Str × Str :=
    match r1 with
    | '.' :: fr => (fr.takeWhile isDigit, fr.drop (fr.takeWhile isDigit).length)
    | _ => ([], r1)
  if intDs.length + fracDs.length == 0 then none
  else rustTail (digitsVal (intDs ++ fracDs)) fracDs.length r2

theorem rust_unsigned (c : Char) (r : Str) (h : isDigit c = true ∨ c = '.') :
    rustParseF64 (c :: r) = rustBody (c :: r) := by
  have hc : c ≠ '+' ∧ c ≠ '-' ∧ lower c = c ∧ c ≠ 'i' ∧ c ≠ 'n' := by
    rcases h with h | rfl
    · exact ⟨digit_ne h rfl, digit_ne h rfl, lower_digit c h, digit_ne h rfl, digit_ne h rfl⟩
    · decide
  obtain ⟨h1, h2, h3, h4, h5⟩ := hc
  unfold rustParseF64
  split
  rename_i heq
  split at heq
  · rename_i h'; simp at h'; exact absurd h'.1 h2
  · rename_i h'; simp at h'; exact absurd h'.1 h1
  · simp at heq
    obtain ⟨rfl, rfl, rfl⟩ := heq
    have k1 : (List.map lower (c :: r) == "inf".toList) = false := by simp [h3, h4]
    have k2 : (List.map lower (c :: r) == "infinity".toList) = false := by simp [h3, h4]
    have k3 : (List.map lower (c :: r) == "nan".toList) = false := by simp [h3, h5]
    simp only [k1, k2, k3]
    rfl

theorem rustTail_lit (mant nf : Nat) {X : Str} {ev : Int} (hX : ExpLit X ev) :
    rustTail mant nf X = some (F64.ofDecimal false mant (ev - (nf : Int))) := by
  rcases hX with ⟨rfl, rfl⟩ | ⟨c, sg, neg, D, rfl, hc, hsg, hne, hD, rfl⟩
  · simp [rustTail]
  · have hc' : (c == 'e' || c == 'E') = true := by rcases hc with rfl | rfl <;> decide
    have hall : D.all isDigit = true := by simpa [List.all_eq_true] using hD
    have hemp : D.isEmpty = false := by cases D <;> simp_all
    obtain ⟨d, D', rfl⟩ : ∃ d D', D = d :: D' := by cases D <;> simp_all
    have hd := hD d (by simp)
    simp only [rustTail, hc', if_true]
    rcases hsg with ⟨rfl, rfl⟩ | ⟨rfl, rfl⟩ | ⟨rfl, rfl⟩
    · simp only [List.nil_append]
      split
      · rename_i heq; simp at heq; exact absurd heq.1 (digit_ne hd rfl)
      · rename_i heq; simp at heq; exact absurd heq.1 (digit_ne hd rfl)
      · simp [hall, hemp]
    · simp [hall, hemp]
    · simp [hall, hemp]

theorem rust_lit {L : Str} {m : Nat} {e : Int} (h : DecLit L m e) :
    rustParseF64 L = some (F64.ofDecimal false m e) := by
  have hb : rustParseF64 L = rustBody L := by
    obtain ⟨c, r, rfl, hc⟩ := decLit_head h
    exact rust_unsigned c r hc
  obtain ⟨I, F, dot, X, ev, rfl, hI, hF, hpos, hdot, rfl, hX, rfl⟩ := h
  obtain ⟨hX1, hX2⟩ := expLit_head hX
  have h0 : (I.length + F.length == 0) = false := by rw [beq_eq_false_iff_ne]; omega
  rw [hb, ← rustTail_lit _ _ hX]
  unfold rustBody
  cases dot with
  | true =>
    have h1 : (I ++ '.' :: (F ++ X)).takeWhile isDigit = I :=
      takeWhile_digits_append I _ hI (by simp [List.takeWhile_cons]; decide)
    have h2 : (F ++ X).takeWhile isDigit = F := takeWhile_digits_append F _ hF hX1
    simp only [if_true, List.cons_append, h1, List.drop_left, h2, h0]
    rfl
  | false =>
    obtain rfl := hdot rfl
    have h1 : (I ++ X).takeWhile isDigit = I := takeWhile_digits_append I _ hI hX1
    simp only [List.length_nil] at h0
    simp only [Bool.false_eq_true, if_false, List.nil_append, h1, List.drop_left, List.length_nil, h0,
      List.append_nil]

/-! ## signs, `Infinity`, negation -/

theorem splitSign_eq (s : Str) : splitSign s = ES.sign s := by
  unfold splitSign ES.sign
  split <;> split <;> simp_all

theorem isPrefix_eq (a b : Str) : isPrefix a b = a.isPrefixOf b := by
  induction a generalizing b with
  | nil => simp [isPrefix]
  | cons x xs ih => cases b <;> simp [isPrefix, List.isPrefixOf, ih]

theorem infinity_word : "Infinity".toList = ES.infinityWord := by decide

theorem negate_roundUnits (n d : Nat) : F64.negate (F64.roundUnits false n d) = F64.roundUnits true n d := by
  simp only [F64.roundUnits_eq]
  split <;> rfl

theorem signed_ofDecimal (neg : Bool) (m : Nat) (e : Int) :
    (if neg then F64.negate (F64.ofDecimal false m e) else F64.ofDecimal false m e) = F64.ofDecimal neg m e := by
  cases neg
  · exact if_neg Bool.false_ne_true
  · -- negation moves through the case distinctions of `ofDecimal` to its leaves
    rw [if_pos rfl]
    unfold F64.ofDecimal
    simp only [apply_ite F64.negate, negate_roundUnits]
    rfl

/-! ## `parse_float_string` -/

theorem parseFloatString_eq (s : Str) : parseFloatString s = ES.parseFloat s := by
  unfold parseFloatString ES.parseFloat
  rw [splitSign_eq, skipWS_eq]
  generalize ES.sign (trimStart s) = p
  obtain ⟨neg, u⟩ := p
  simp only [isPrefix_eq, infinity_word]
  by_cases hinf : List.isPrefixOf ES.infinityWord u = true
  · cases neg <;> simp [hinf, F64.negate]
  · simp only [hinf, if_false, Bool.false_eq_true]
    rcases lit_spec u with ⟨h, h0⟩ | ⟨m, e, rest, L, h, rfl, hL, hlen⟩
    · rw [h, h0]; rfl
    · simp only [hlen, List.take_left, h, rust_lit hL, signed_ofDecimal]

/-! ## the decimal branch of `str_to_number` -/

/-- the decimal branch of `strToNumber`, after trimming and the radix test -/
def modelDec (s : Str) : Option F64 :=
  let (negative, unsigned) := splitSign s
  let magnitude : Option F64 :=
    if unsigned == "Infinity".toList then some (F64.inf false)
    else if !unsigned.isEmpty && decimalLiteralLen unsigned == unsigned.length then rustParseF64 unsigned
    else none
  match magnitude with
  | none => none
  | some m => some (if negative then F64.negate m else m)

/-- the decimal branch of `ES.stringToNumber`, after stripping and the non-decimal literals -/
def specDec (t : Str) : Option F64 :=
  let (neg, u) := ES.sign t
  if u = ES.infinityWord then some (F64.inf neg)
  else
    match ES.unsignedDecimalLiteral u with
    | some (m, e, []) => some (F64.ofDecimal neg m e)
    | _ => none

theorem strToNumber_unfold (s : Str) : strToNumber s =
    if (trimBoth s).isEmpty then some F64.zero
    else match radixLiteral (trimBoth s) with
      | some rv => rv
      | none => modelDec (trimBoth s) := rfl

theorem stringToNumber_unfold (s : Str) : ES.stringToNumber s =
    if ES.strip s = [] then some (F64.fin false 0)
    else match ES.nonDecimalIntegerLiteral (ES.strip s) with
      | some n => some (F64.roundUnits false (n * F64.S) 1)
      | none => specDec (ES.strip s) := rfl

theorem modelDec_eq (t : Str) : modelDec t = specDec t := by
  unfold modelDec specDec
  rw [splitSign_eq, infinity_word]
  generalize ES.sign t = p
  obtain ⟨neg, u⟩ := p
  simp only [beq_iff_eq]
  by_cases hinf : u = ES.infinityWord
  · cases neg <;> simp [hinf, F64.negate]
  · simp only [hinf, if_false]
    rcases lit_spec u with ⟨h, h0⟩ | ⟨m, e, rest, L, h, rfl, hL, hlen⟩
    · rw [h, h0]
      cases u <;> simp
    · -- the model's length test holds iff nothing is left over
      rw [h, hlen]
      cases rest with
      | nil => simp [hL.ne_nil, rust_lit hL, signed_ofDecimal]
      | cons c r => simp

end JL.Lemmas.StrNum

/-! ## the alphabet of a decimal literal -/
namespace JL.Lemmas.RoundTrip
open JL JL.JsOp JL.Spec JL.Lemmas.StrNum

/-- the characters a number's JSON text is made of -/
def NumChar (c : Char) : Prop :=
  isDigit c = true ∨ c = '-' ∨ c = '+' ∨ c = '.' ∨ c = 'e' ∨ c = 'E'

/-- from `'+'` to `'e'` -/
theorem numChar_range (c : Char) (h : NumChar c) : 43 ≤ c.toNat ∧ c.toNat ≤ 101 := by
  rcases h with h | rfl | rfl | rfl | rfl | rfl
  · have := (isDigit_iff c).mp h; omega
  all_goals decide

theorem numChar_lt (c : Char) (h : NumChar c) : c.toNat < 128 := by
  have := numChar_range c h; omega

theorem numChar_not_ws (c : Char) (h : NumChar c) : isJsWhitespace c = false := by
  have := numChar_range c h
  simp [isJsWhitespace]; omega

theorem not_numChar_radix : ∀ d ∈ ['x', 'X', 'o', 'O', 'b', 'B'], ¬ NumChar d := by unfold NumChar; decide

theorem digit_numChar (c : Char) (h : isDigit c = true) : NumChar c := Or.inl h

theorem expLit_numChars (X : Str) (ev : Int) (hX : ExpLit X ev) : ∀ c ∈ X, NumChar c := by
  rcases hX with ⟨rfl, -⟩ | ⟨c, sg, neg, D, rfl, hc, hsg, -, hD, -⟩
  · simp
  · intro x hx
    simp only [List.mem_cons, List.mem_append] at hx
    rcases hx with rfl | hx | hx
    · rcases hc with rfl | rfl <;> simp [NumChar]
    · rcases hsg with ⟨rfl, -⟩ | ⟨rfl, -⟩ | ⟨rfl, -⟩ <;> simp at hx <;> subst hx <;> simp [NumChar]
    · exact Or.inl (hD x hx)

theorem decLit_numChars (neg : Bool) {L : Str} {m : Nat} {e : Int} (h : DecLit L m e) :
    ∀ c ∈ (if neg then ['-'] else []) ++ L, NumChar c := by
  obtain ⟨I, F, dot, X, ev, rfl, hI, hF, -, -, -, hX, -⟩ := h
  intro c hc
  simp only [List.mem_append] at hc
  rcases hc with hc | hc | hc | hc
  · cases neg <;> simp at hc
    subst hc; simp [NumChar]
  · exact Or.inl (hI c hc)
  · cases dot <;> simp at hc
    rcases hc with rfl | hc
    · simp [NumChar]
    · exact Or.inl (hF c hc)
  · exact expLit_numChars X ev hX c hc

end JL.Lemmas.RoundTrip
