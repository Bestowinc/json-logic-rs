import JL.Rs
import JL.Lemmas.C13
import JL.Lemmas.TieD
/-!
# Helper lemmas for the tie theorems of `src/op/array.rs` (`map`, `filter`, `reduce`, `all`, `some`, `none`)

General facts about the prelude `JL/Rs.lean` in the outcome monad `M`:
* `?` (`Rs.try_`), `Parsed::from_value`, `args[i]`, `Result::map`, `Result::and_then` as `>>=` / `if check`;
* the strict fold `Rs.foldM` whose step starts by `acc?` / `acc.and_then(..)` is `acc >>= List.foldlM`;
* `collect::<Result<Vec<_>,_>>()` of a mapped iterator is the model's `mapData`.
The model's loops as `List.foldlM`s are with the loops: `filter_foldlM`, `reduceData_eq_foldlM` in `Lemmas/C13`, `quant_foldlM`,
`quantLit_foldlM` in `Lemmas/C14`.
-/
namespace JL.Lemmas.TieE
open JL

/-! ## the prelude in `M` -/

theorem try_M {α β} (x : M α) (k : α → M β) : Rs.try_ x k = x >>= k := rfl
theorem and_then_M {α β} (x : M α) (k : α → M β) : Rs.and_then x k = x >>= k := rfl
theorem map_M {α β} (x : M α) (f : α → β) : Rs.map x f = x >>= fun a => pure (f a) := rfl
theorem map_list {α β} (x : List α) (f : α → β) : Rs.map x f = List.map f x := rfl

/-- `Parsed::from_value(x)?` followed by the rest: the rest runs on the rule text iff `check` accepts it -/
theorem try_parsed {β} (x : Json) (k : Rs.Parsed → M β) :
    Rs.try_ (Rs.parsed_from_value x) k = if check x then k ⟨x⟩ else M.err := by
  simp only [Rs.try_, Rs.RTry.try_, Rs.parsed_from_value]
  cases check x <;> simp [M.bind, pure, M.pure, M.err]

theorem index0 {α} [Inhabited α] (a : α) (l : List α) : Rs.index (a :: l) 0 = a := rfl
theorem index1 {α} [Inhabited α] (a b : α) (l : List α) : Rs.index (a :: b :: l) 1 = b := rfl
theorem index2 {α} [Inhabited α] (a b c : α) (l : List α) : Rs.index (a :: b :: c :: l) 2 = c := rfl

/-- `let x = e;` on a non-`Result` value is a plain `let` -/
theorem strict_plain {τ β} (e : τ) (k : τ → M β) : @Rs.strict τ (@Rs.instRStrict τ) β e k = k e := rfl

/-! ## `Rs.foldM` -/

/-- a strict fold whose step begins with `acc?` (or `acc.and_then`) is the monadic left fold started after `acc`
(`TieD.foldM_bind` for a step in exactly this form, over `List.foldlM`) -/
theorem foldM_bind_foldlM {α β} (g : β → α → M β) (xs : List α) (acc : M β) :
    Rs.foldM xs acc (fun acc x => acc >>= fun a => g a x) = acc >>= fun a => xs.foldlM g a := by
  rw [TieD.foldM_bind _ g (fun _ _ => rfl)]
  congr 1; funext a; exact TieD.foldBind_eq_foldlM g xs a

/-! ## `collect` -/

theorem collect_map {α} (f : α → M Json) : ∀ xs : List α, Rs.collect_result (Rs.map xs f) = xs.mapM f
  | [] => rfl
  | x :: xs => by
    have ih := collect_map f xs
    rw [map_list] at ih ⊢
    have ih' : Rs.collectM (List.map f xs) = xs.mapM f := by simpa [rs] using ih
    simp only [rs, List.map_cons, Rs.collectM, ih', List.mapM_cons]
    rfl

theorem collect_map_data (f : Json → M Json) (xs : List Json) : Rs.collect_result (Rs.map xs f) = mapData f xs := by
  rw [collect_map, mapData_eq_mapM]

/-! ## the context object of `reduce` -/

/-- inserting `"current"` and then `"accumulator"` into an empty sorted map gives the model's context object -/
theorem insert_ctx (a x : Json) :
    Json.obj (Rs.insert_ (Rs.insert_ (Rs.new_ ()) "current".toList x) "accumulator".toList a) = reduceCtx a x := by
  simp only [Rs.new_, Rs.insert_]
  rw [if_neg (by decide), if_pos (by decide)]
  rfl

end JL.Lemmas.TieE
