import JL.F64
/-!
# Bit length and the rounded magnitude of `F64.roundUnits`

`roundK` is the body of `roundUnits` before the overflow test. `rm` is
`roundK` on an integer number of units; it is defined through `rmAt`, the same rounding with the shift as a parameter,
because the sticky-bit argument of `StrNumRadix` varies the shift.
-/
namespace JL
namespace F64

section
-- just above 2098, the exponent of `OVF`; only silences "exponent exceeds the threshold" at the literals below
set_option exponentiation.threshold 2100
theorem S_eq : S = 2 ^ 1074 := rfl
theorem OVF_eq : OVF = 2 ^ 2098 := rfl
theorem S_pos : 0 < S := Nat.two_pow_pos 1074
end
theorem S_ne_zero : S ≠ 0 := Nat.ne_of_gt S_pos
theorem S_posI : (0 : Int) < (S : Int) := Int.natCast_pos.mpr S_pos

/-! ## bit length -/

theorem bitLen_le_iff (n b : Nat) : bitLen n ≤ b ↔ n < 2 ^ b := by
  unfold bitLen
  split
  · subst n; simp [Nat.two_pow_pos]
  · rw [Nat.succ_le_iff, Nat.log2_lt ‹_›]

theorem bitLen_pos (q : Nat) (h : q ≠ 0) : 0 < bitLen q := by simp [bitLen, h]

theorem lt_pow_bitLen (q : Nat) : q < 2 ^ bitLen q := (bitLen_le_iff q _).mp (Nat.le_refl _)

theorem lt_bitLen_of_le (q L : Nat) (h : 2 ^ L ≤ q) : L < bitLen q :=
  Nat.lt_of_not_le fun hle => Nat.not_lt.mpr h ((bitLen_le_iff q L).mp hle)

theorem bitLen_mono {a b : Nat} (h : a ≤ b) : bitLen a ≤ bitLen b :=
  (bitLen_le_iff _ _).mpr (Nat.lt_of_le_of_lt h (lt_pow_bitLen b))

theorem bitLen_bounds (q : Nat) (h : q ≠ 0) : 2 ^ (bitLen q - 1) ≤ q ∧ q < 2 ^ bitLen q := by
  refine ⟨Nat.le_of_not_lt fun hlt => ?_, lt_pow_bitLen q⟩
  have := (bitLen_le_iff q _).mpr hlt
  have := bitLen_pos q h
  omega

theorem bitLen_unique (q L : Nat) (h1 : 2 ^ L ≤ q) (h2 : q < 2 ^ (L + 1)) : bitLen q = L + 1 :=
  Nat.le_antisymm ((bitLen_le_iff q _).mpr h2) (lt_bitLen_of_le q L h1)

theorem bitLen_two_pow (n : Nat) : bitLen (2 ^ n) = n + 1 :=
  bitLen_unique _ n (Nat.le_refl _) (Nat.pow_lt_pow_right (by decide) (Nat.lt_succ_self n))

theorem bitLen_div_pow (q t : Nat) (h : q / 2 ^ t ≠ 0) : bitLen q = bitLen (q / 2 ^ t) + t := by
  obtain ⟨h1, h2⟩ := bitLen_bounds _ h
  have hp := Nat.two_pow_pos t
  obtain ⟨L, hL⟩ : ∃ L, bitLen (q / 2 ^ t) = L + 1 := ⟨_, (Nat.sub_add_cancel (bitLen_pos _ h)).symm⟩
  rw [hL] at h1 h2 ⊢
  rw [Nat.add_sub_cancel, Nat.le_div_iff_mul_le hp, ← Nat.pow_add] at h1
  rw [Nat.div_lt_iff_lt_mul hp, ← Nat.pow_add] at h2
  rw [bitLen_unique q (L + t) h1 (by rwa [Nat.add_right_comm]), Nat.add_right_comm]

theorem bitLen_mul_pow (q t : Nat) (h : q ≠ 0) : bitLen (q * 2 ^ t) = bitLen q + t := by
  have := bitLen_div_pow (q * 2 ^ t) t
  rwa [Nat.mul_div_cancel _ (Nat.two_pow_pos t), imp_iff_right h] at this

theorem mant_lt (q : Nat) : q / 2 ^ (bitLen q - 53) < 2 ^ 53 := by
  apply Nat.div_lt_of_lt_mul
  rw [← Nat.pow_add]
  exact Nat.lt_of_lt_of_le (lt_pow_bitLen q) (Nat.pow_le_pow_right (by decide) (by omega))

/-! ## the grid -/

theorem grid_iff (k : Nat) : (bitLen k ≤ 53 ∨ 2 ^ (bitLen k - 53) ∣ k) ↔ 2 ^ (bitLen k - 53) ∣ k := by
  constructor
  · rintro (h | h)
    · rw [Nat.sub_eq_zero_of_le h]; exact Nat.one_dvd _
    · exact h
  · exact Or.inr

/-- the ulp grows with the magnitude -/
theorem ulp_dvd_of_le {a b : Nat} (h : a ≤ b) : 2 ^ (bitLen a - 53) ∣ 2 ^ (bitLen b - 53) :=
  Nat.pow_dvd_pow 2 (Nat.sub_le_sub_right (bitLen_mono h) 53)

/-- a significand below `2^53`, shifted by `sh`: the ulp `2^(bitLen _ - 53)` divides `2^sh` -/
theorem ulp_mul_pow_dvd (m sh : Nat) (hm : m < 2 ^ 53) : 2 ^ (bitLen (m * 2 ^ sh) - 53) ∣ 2 ^ sh := by
  have h2 : m * 2 ^ sh < 2 ^ (sh + 53) := by
    rw [Nat.pow_add, Nat.mul_comm (2 ^ sh)]; exact Nat.mul_lt_mul_of_pos_right hm (Nat.pow_pos (by decide))
  exact Nat.pow_dvd_pow 2 (Nat.sub_le_of_le_add ((bitLen_le_iff _ _).mpr h2))

/-- at most 53 significant bits, shifted: a multiple of its own ulp -/
theorem grid_mul_pow (m sh : Nat) (hm : m ≤ 2 ^ 53) : 2 ^ (bitLen (m * 2 ^ sh) - 53) ∣ m * 2 ^ sh := by
  rcases Nat.lt_or_eq_of_le hm with h | h
  · exact Nat.dvd_trans (ulp_mul_pow_dvd m sh h) (Nat.dvd_mul_left _ _)
  · rw [h, ← Nat.pow_add, bitLen_two_pow]
    exact Nat.pow_dvd_pow 2 (by omega)

/-! ## the rounded magnitude -/

/-- the rounded magnitude computed by `roundUnits`, before the overflow test -/
def roundK (num den : Nat) : Nat :=
  let q := num / den
  let r := num % den
  let L := bitLen q
  if L ≤ 53 then
    let up := (2 * r > den) || (2 * r == den && q % 2 == 1)
    if up then q + 1 else q
  else
    let sh := L - 53
    let m := q >>> sh
    let rem := q % (2 ^ sh)
    let half := 2 ^ (sh - 1)
    let up := (rem > half) || (rem == half && (r != 0 || m % 2 == 1))
    (if up then m + 1 else m) <<< sh

theorem roundUnits_eq (neg : Bool) (num den : Nat) :
    roundUnits neg num den = if roundK num den ≥ OVF then inf neg else fin neg (roundK num den) := rfl

/-! ## rounding an integer to 53 significant bits -/

/-- round-to-nearest-even of an integer `q` at a given shift (keeps the bits above `sh`) -/
def rmAt (sh q : Nat) : Nat :=
  (if q % 2 ^ sh > 2 ^ (sh - 1) ∨ (q % 2 ^ sh = 2 ^ (sh - 1) ∧ (q / 2 ^ sh) % 2 = 1) then q / 2 ^ sh + 1
   else q / 2 ^ sh) * 2 ^ sh

/-- round-to-nearest-even of an integer to 53 significant bits -/
def rm (q : Nat) : Nat := if bitLen q ≤ 53 then q else rmAt (bitLen q - 53) q

theorem roundK_mul (q d : Nat) (hd : 0 < d) : roundK (q * d) d = rm q := by
  unfold roundK rm rmAt
  simp only [Nat.mul_div_cancel _ hd, Nat.mul_mod_left, Nat.shiftRight_eq_div_pow, Nat.shiftLeft_eq]
  -- the remainder is 0: the tie test of the short branch and the sticky test `r != 0` of the long one are both false,
  -- what is left is `rmAt`'s test on `q` alone
  split
  · have h2 : ¬ (0 = d) := by omega
    simp [h2]
  · simp

theorem rmAt_of_dvd (sh q : Nat) (h : 2 ^ sh ∣ q) : rmAt sh q = q := by
  have hp := Nat.two_pow_pos (sh - 1)
  rw [rmAt, Nat.mod_eq_zero_of_dvd h, if_neg (by omega), Nat.div_mul_cancel h]

/-- a multiple of its own ulp is not rounded -/
theorem rm_of_grid (k : Nat) (h : 2 ^ (bitLen k - 53) ∣ k) : rm k = k := by
  unfold rm
  split
  · rfl
  · exact rmAt_of_dvd _ _ h

/-- numbers with at most 53 significant bits are fixed points of the rounding -/
theorem rm_repr (m e : Nat) (hm : m ≤ 2 ^ 53) : rm (m * 2 ^ e) = m * 2 ^ e :=
  rm_of_grid _ (grid_mul_pow m e hm)

theorem rm_eq_roundK (q : Nat) : rm q = roundK q 1 := by
  rw [← roundK_mul q 1 Nat.one_pos, Nat.mul_one]

theorem roundUnits_rm (neg : Bool) (q : Nat) :
    roundUnits neg q 1 = if rm q ≥ OVF then inf neg else fin neg (rm q) := by
  rw [roundUnits_eq, rm_eq_roundK]

theorem roundUnits_exact (neg : Bool) (k d : Nat) (hd : 0 < d) (hk : OnGrid k) :
    roundUnits neg (k * d) d = fin neg k := by
  rw [roundUnits_eq, roundK_mul k d hd, rm_of_grid k ((grid_iff k).mp hk.2), if_neg (Nat.not_le.mpr hk.1)]

theorem roundUnits_one (neg : Bool) (k : Nat) (hk : OnGrid k) : roundUnits neg k 1 = fin neg k := by
  have := roundUnits_exact neg k 1 Nat.one_pos hk
  rwa [Nat.mul_one] at this

end F64
end JL
