import JL.Lemmas.IEEE
import JL.Eval
/-!
# Lemmas for C06: when a number's double is ±0
-/
namespace JL.Lemmas.C06
open JL Json F64

theorem eq_zero_fin (b : Bool) (k : Nat) : F64.eq (fin b k) zero = true ↔ k = 0 := by
  simp [F64.eq, zero]

/-- `x == 0.0` holds of `+0.0` and `-0.0` only -/
theorem eq_zero_iff (x : F64) : F64.eq x zero = true ↔ ∃ b, x = fin b 0 := by
  cases x with
  | nan => simp [F64.eq]
  | inf b => simp [F64.eq, zero]
  | fin b k => simp [eq_zero_fin]

/-- rounding an integer number of units to the binary64 grid gives (±)0 only for 0 — no size bound: 1 is on the grid,
and the rounding of `num ≥ 1` is not below a grid point that `num` is not below -/
theorem roundUnits_one_eq_zero (neg : Bool) (num : Nat) :
    F64.eq (roundUnits neg num 1) zero = true ↔ num = 0 := by
  by_cases h0 : num = 0
  · subst h0; cases neg <;> decide +kernel
  · have h1 : 1 ≤ roundK num 1 :=
      Lemmas.IEEE.le_roundK_of_le num 1 1 Nat.one_pos ⟨1, 0, by decide, rfl⟩ (by omega)
    simp only [h0, iff_false, Bool.not_eq_true, roundUnits_eq]
    split
    · rfl
    · rw [← Bool.not_eq_true, eq_zero_fin]; omega

theorem mul_S_eq_zero (n : Nat) : n * S = 0 ↔ n = 0 := by
  rw [Nat.mul_eq_zero, or_iff_left S_ne_zero]

/-- `u64 as f64` is zero only for 0 (every `n : ℕ`) -/
theorem ofNat_eq_zero (n : Nat) : F64.eq (F64.ofNat n) zero = true ↔ n = 0 := by
  unfold F64.ofNat
  rw [roundUnits_one_eq_zero, mul_S_eq_zero]

/-- `i64 as f64` is zero only for 0 -/
theorem ofInt_eq_zero (i : Int) : F64.eq (F64.ofInt i) zero = true ↔ i = 0 := by
  unfold F64.ofInt
  rw [roundUnits_one_eq_zero, mul_S_eq_zero]
  omega

/-- a number's double is ±0 exactly for the spellings `0`, `0.0`, `-0.0` (and the non-well-formed `NegInt(0)`) -/
theorem toF64_eq_zero (n : Num) :
    F64.eq n.toF64 zero = true ↔ n = .pos 0 ∨ n = .neg 0 ∨ ∃ b, n = .flt (fin b 0) := by
  cases n with
  | pos n => simp [Num.toF64, ofNat_eq_zero]
  | neg m => simp [Num.toF64, ofInt_eq_zero]
  | flt f => simp [Num.toF64, eq_zero_iff]

theorem bind_congr_ok {α β} {x : M α} {l : List Json} {a : α} (h : x = ⟨l, .ok a⟩) (f : α → M β) :
    (x >>= f) = ⟨l ++ (f a).logs, (f a).out⟩ := by
  subst h; rfl

end JL.Lemmas.C06
