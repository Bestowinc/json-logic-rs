import JL.Spec.Utf8
/-!
# Lemmas on UTF-8: order preservation, prefix-freeness, self-synchronisation
-/
namespace JL.Lemmas.Utf8
open JL JL.Spec.Utf8

/-! ## shape of one encoded scalar value -/

/-- the four rows of the RFC 3629 table -/
theorem encodeNat_cases (n : Nat) :
    (n < 0x80 ∧ encodeNat n = [n]) ∨
    (0x80 ≤ n ∧ n < 0x800 ∧ encodeNat n = [0xC0 + n / 0x40, 0x80 + n % 0x40]) ∨
    (0x800 ≤ n ∧ n < 0x10000 ∧ encodeNat n = [0xE0 + n / 0x1000, 0x80 + n / 0x40 % 0x40, 0x80 + n % 0x40]) ∨
    (0x10000 ≤ n ∧
      encodeNat n = [0xF0 + n / 0x40000, 0x80 + n / 0x1000 % 0x40, 0x80 + n / 0x40 % 0x40, 0x80 + n % 0x40]) := by
  unfold encodeNat
  by_cases h1 : n < 0x80
  · exact .inl ⟨h1, by rw [if_pos h1]⟩
  · by_cases h2 : n < 0x800
    · exact .inr (.inl ⟨Nat.le_of_not_lt h1, h2, by rw [if_neg h1, if_pos h2]⟩)
    · by_cases h3 : n < 0x10000
      · exact .inr (.inr (.inl ⟨Nat.le_of_not_lt h2, h3, by rw [if_neg h1, if_neg h2, if_pos h3]⟩))
      · exact .inr (.inr (.inr ⟨Nat.le_of_not_lt h3, by rw [if_neg h1, if_neg h2, if_neg h3]⟩))

/-! The same table with the number `k` of continuation bytes as a variable: what holds of every row is proved once. -/

/-- the `k` continuation bytes of a row: the low `6 k` bits of `n`, six to a byte, most significant first -/
def conts : Nat → Nat → List Nat
  | 0, _ => []
  | k + 1, n => (0x80 + n / 0x40 ^ k % 0x40) :: conts k n

/-- the marker bits of the lead byte of row `k` -/
def marker : Nat → Nat | 0 => 0 | 1 => 0xC0 | 2 => 0xE0 | _ => 0xF0
/-- how many values the payload of the lead byte of row `k` can take -/
def width : Nat → Nat | 0 => 0x80 | 1 => 0x20 | 2 => 0x10 | _ => 0x08

/-- row `k`: the lead byte carries the bits of `n` above the low `6 k` -/
def row (k n : Nat) : List Nat := (marker k + n / 0x40 ^ k) :: conts k n

/-- a number is encoded by the first row whose lead byte is wide enough for it, or by the last row -/
theorem encodeNat_row (n : Nat) : ∃ k, k ≤ 3 ∧ encodeNat n = row k n ∧
    (∀ j, j < k → 0x40 ^ j * width j ≤ n) ∧ (k < 3 → n < 0x40 ^ k * width k) := by
  rcases encodeNat_cases n with ⟨h, e⟩ | ⟨h, h', e⟩ | ⟨h, h', e⟩ | ⟨h, e⟩
  · exact ⟨0, by decide, by simpa [row, conts, marker] using e, nofun, fun _ => h⟩
  -- `revert j` takes the anonymous `j < k` along: `decide` sees `∀ j < k, 0x40 ^ j * width j ≤ <first value of row k>`
  · exact ⟨1, by decide, by simpa [row, conts, marker] using e, fun j _ => Nat.le_trans (by revert j; decide) h, fun _ => h'⟩
  · exact ⟨2, by decide, by simpa [row, conts, marker] using e, fun j _ => Nat.le_trans (by revert j; decide) h, fun _ => h'⟩
  · exact ⟨3, by decide, by simpa [row, conts, marker] using e, fun j _ => Nat.le_trans (by revert j; decide) h, nofun⟩

/-- a lead byte (`0xxxxxxx`, `110xxxxx`, `1110xxxx`, `11110xxx`) is never of the form `10xxxxxx`; it is a byte; the lead
bytes of a shorter row are below those of a longer one (`k < 3` in the first alternative because `encodeNat_row` bounds
the payload of the lead byte only for the rows that are not the last) -/
theorem lead_ranges : ∀ k ≤ 3, (k < 3 ∧ marker k + width k ≤ 0x80 ∨ 0xC0 ≤ marker k) ∧ marker k + width k ≤ 256 ∧
    ∀ j < k, marker j + width j ≤ marker k := by decide

theorem lead_lt {k n : Nat} (h : n < 0x40 ^ k * width k) : marker k + n / 0x40 ^ k < marker k + width k :=
  Nat.add_lt_add_left (Nat.div_lt_of_lt_mul h) _

theorem conts_isCont : ∀ k n, ∀ b ∈ conts k n, isCont b
  | 0, _, _, h => nomatch h
  | k + 1, n, b, h => by
    rcases List.mem_cons.mp h with rfl | h
    · unfold isCont; omega
    · exact conts_isCont k n b h

/-- the first byte is a lead byte, all others are continuation bytes `10xxxxxx` -/
theorem encodeNat_shape (n : Nat) : ∃ l cs, encodeNat n = l :: cs ∧ ¬ isCont l ∧ ∀ b ∈ cs, isCont b := by
  obtain ⟨k, hk, e, -, u⟩ := encodeNat_row n
  refine ⟨_, _, e, fun ⟨h1, h2⟩ => ?_, conts_isCont k n⟩
  rcases (lead_ranges k hk).1 with ⟨h3, h⟩ | h
  · exact absurd (Nat.lt_of_lt_of_le (lead_lt (u h3)) h) (Nat.not_lt.mpr h1)
  · exact absurd (Nat.le_trans h (Nat.le_add_right ..)) (Nat.not_le.mpr h2)

theorem encodeNat_ne_nil (n : Nat) : encodeNat n ≠ [] := by
  obtain ⟨_, _, e, -⟩ := encodeNat_shape n
  rw [e]; exact nofun

/-- every produced value is a byte (for scalar values, i.e. `n < 0x110000`) -/
theorem encodeNat_byte (n : Nat) (hn : n < 0x110000) : ∀ b ∈ encodeNat n, b < 256 := by
  obtain ⟨k, hk, e, -, u⟩ := encodeNat_row n
  have u' : n < 0x40 ^ k * width k := by
    rcases Nat.lt_or_eq_of_le hk with h | rfl
    · exact u h
    · exact Nat.lt_trans hn (by decide)
  intro b hb
  rcases List.mem_cons.mp (e ▸ hb) with rfl | hb
  · exact Nat.lt_of_lt_of_le (lead_lt u') (lead_ranges k hk).2.1
  · exact Nat.lt_trans (conts_isCont k n b hb).2 (by decide)

theorem encodeChar_shape (c : Char) : ∃ l cs, encodeChar c = l :: cs ∧ ¬ isCont l ∧ ∀ b ∈ cs, isCont b :=
  encodeNat_shape _

theorem encodeChar_ne_nil (c : Char) : encodeChar c ≠ [] := encodeNat_ne_nil _

@[simp] theorem encode_nil : encode [] = [] := rfl
@[simp] theorem encode_cons (c : Char) (s : Str) : encode (c :: s) = encodeChar c ++ encode s := by
  simp [encode]
theorem encode_append (s t : Str) : encode (s ++ t) = encode s ++ encode t := by
  simp [encode]

/-! ## the ASCII row: one byte, the code itself; every byte of any other character is `≥ 128` -/

theorem encodeChar_ascii (c : Char) (h : c.toNat < 128) : encodeChar c = [c.toNat] := by
  have h' : c.val.toNat < 128 := h
  simp only [encodeChar, encodeNat]
  rw [if_pos h']
  rfl

theorem encode_cons_ascii (c : Char) (s : Str) (h : c.toNat < 128) : encode (c :: s) = c.toNat :: encode s := by
  rw [encode_cons, encodeChar_ascii c h]; rfl

/-- every byte of the encoding of a non-ASCII character is `≥ 128` -/
theorem encodeChar_big (c : Char) (h : ¬ c.toNat < 128) : ∀ b ∈ encodeChar c, 128 ≤ b := by
  have h' : ¬ c.val.toNat < 128 := h
  unfold encodeChar
  rcases encodeNat_cases c.val.toNat with ⟨h1, e⟩ | ⟨h1, h2, e⟩ | ⟨h1, h2, e⟩ | ⟨h1, e⟩ <;> rw [e] <;>
    simp only [List.mem_cons, List.not_mem_nil, or_false, forall_eq_or_imp, forall_eq] <;> omega

theorem encode_cons_big (c : Char) (s : Str) (h : ¬ c.toNat < 128) :
    ∃ b r, encode (c :: s) = b :: r ∧ 128 ≤ b := by
  obtain ⟨l, cs, e, -⟩ := encodeChar_shape c
  refine ⟨l, cs ++ encode s, by rw [encode_cons, e]; rfl, ?_⟩
  exact encodeChar_big c h l (by rw [e]; exact List.mem_cons_self)

theorem char_of_toNat (c d : Char) (h : c.toNat = d.toNat) : c = d := by
  apply Char.ext
  apply UInt32.toNat_inj.mp
  exact h

/-! ## the byte order, and one scalar value against another -/

theorem bytesLt_irrefl : ∀ x : List Nat, bytesLt x x = false
  | [] => rfl
  | a :: as => by simp [bytesLt, bytesLt_irrefl as]

theorem bytesLt_append_same : ∀ (x as bs : List Nat), bytesLt (x ++ as) (x ++ bs) = bytesLt as bs
  | [], _, _ => rfl
  | a :: x, as, bs => by simp [bytesLt, bytesLt_append_same x as bs]

theorem bytesLt_cons (a b : Nat) (x y : List Nat) :
    bytesLt (a :: x) (b :: y) = true ↔ a < b ∨ a = b ∧ bytesLt x y = true := by
  simp only [bytesLt, Bool.or_eq_true, decide_eq_true_eq, Bool.and_eq_true, beq_iff_eq]

theorem bytesLt_asymm : ∀ x y : List Nat, bytesLt x y = true → bytesLt y x = false
  | _, [], h => by simp [bytesLt] at h
  | [], _ :: _, _ => rfl
  | a :: x, b :: y, h => by
    rw [Bool.eq_false_iff, Ne, bytesLt_cons]
    rcases (bytesLt_cons ..).mp h with h' | ⟨rfl, h'⟩
    · omega
    · simp [bytesLt_asymm x y h']

/-- positional notation preserves order: with equal bits above the low `6 k`, the continuation bytes of the smaller
number come first in the byte order, whatever follows them -/
theorem bytesLt_conts {n m : Nat} (h : n < m) (x y : List Nat) :
    ∀ k, n / 0x40 ^ k = m / 0x40 ^ k → bytesLt (conts k n ++ x) (conts k m ++ y) = true
  | 0, e => by rw [Nat.pow_zero, Nat.div_one, Nat.div_one] at e; omega
  | k + 1, e => by
    rw [Nat.pow_succ, ← Nat.div_div_eq_div_mul, ← Nat.div_div_eq_div_mul] at e
    rw [conts, conts, List.cons_append, List.cons_append, bytesLt_cons]
    rcases Nat.lt_or_eq_of_le (Nat.div_le_div_right (c := 0x40 ^ k) (Nat.le_of_lt h)) with hq | hq
    · left; omega
    · exact .inr ⟨by rw [hq], bytesLt_conts h x y k hq⟩

theorem bytesLt_row (k : Nat) {n m : Nat} (h : n < m) (x y : List Nat) : bytesLt (row k n ++ x) (row k m ++ y) = true := by
  rw [row, row, List.cons_append, List.cons_append, bytesLt_cons]
  rcases Nat.lt_or_eq_of_le (Nat.div_le_div_right (c := 0x40 ^ k) (Nat.le_of_lt h)) with hq | hq
  · exact .inl (Nat.add_lt_add_left hq _)
  · exact .inr ⟨by rw [hq], bytesLt_conts h x y k hq⟩

/-- the core fact: the encoding of a smaller number comes before that of a larger one, whatever follows either (in
particular neither is a prefix of the other) -/
theorem bytesLt_encodeNat (n m : Nat) (h : n < m) (x y : List Nat) :
    bytesLt (encodeNat n ++ x) (encodeNat m ++ y) = true := by
  obtain ⟨j, hj, ej, lj, uj⟩ := encodeNat_row n
  obtain ⟨k, hk, ek, -, uk⟩ := encodeNat_row m
  rw [ej, ek]
  rcases Nat.lt_trichotomy j k with hjk | rfl | hjk
  · -- a shorter row: its lead byte is below the marker of every longer one
    exact (bytesLt_cons ..).mpr (.inl (Nat.lt_of_lt_of_le (lead_lt (uj (Nat.lt_of_lt_of_le hjk hk)))
      (Nat.le_trans ((lead_ranges k hk).2.2 j hjk) (Nat.le_add_right ..))))
  · exact bytesLt_row j h x y
  · -- a longer row for the smaller number is impossible: `m` lies in the range of row `k`, and `n`, being in row `j > k`,
    -- lies above it
    exact absurd (Nat.lt_of_lt_of_le (Nat.lt_trans h (uk (Nat.lt_of_lt_of_le hjk hj))) (lj k hjk)) (Nat.lt_irrefl _)

theorem bytesLt_encodeChar (c d : Char) (h : c.val < d.val) (x y : List Nat) :
    bytesLt (encodeChar c ++ x) (encodeChar d ++ y) = true :=
  bytesLt_encodeNat _ _ (UInt32.lt_iff_toNat_lt.mp h) x y

/-! ## order -/

theorem bytesLt_encode : ∀ a b : Str, bytesLt (encode a) (encode b) = strLt a b
  | [], [] => rfl
  | [], b :: bs => by
    obtain ⟨l, cs, e, -⟩ := encodeChar_shape b
    simp [strLt, e, bytesLt]
  | a :: as, [] => by
    simp [strLt, bytesLt]
  | a :: as, b :: bs => by
    simp only [encode_cons, strLt]
    by_cases h1 : a.val < b.val
    · rw [if_pos h1]
      exact bytesLt_encodeChar a b h1 _ _
    · rw [if_neg h1]
      by_cases h2 : b.val < a.val
      · rw [if_pos h2]
        exact bytesLt_asymm _ _ (bytesLt_encodeChar b a h2 _ _)
      · rw [if_neg h2]
        obtain rfl : a = b := Char.le_antisymm (Char.not_lt.1 h2) (Char.not_lt.1 h1)
        rw [bytesLt_append_same]
        exact bytesLt_encode as bs

/-! ## prefix-freeness and injectivity -/

/-- no encoded scalar value is a prefix of another one's encoding (followed by anything) -/
theorem encodeChar_prefix_free (c d : Char) (x y : List Nat) (h : encodeChar c ++ x = encodeChar d ++ y) : c = d := by
  refine Char.le_antisymm (Char.not_lt.1 fun hlt => ?_) (Char.not_lt.1 fun hlt => ?_)
  · have := bytesLt_encodeChar d c hlt y x
    rw [h, bytesLt_irrefl] at this; cases this
  · have := bytesLt_encodeChar c d hlt x y
    rw [h, bytesLt_irrefl] at this; cases this

theorem encodeChar_injective (c d : Char) (h : encodeChar c = encodeChar d) : c = d :=
  encodeChar_prefix_free c d [] [] (by rw [h])

/-- a well-formed byte prefix of a well-formed string is the encoding of a character prefix -/
theorem encode_prefix : ∀ (n h : Str) (suf : List Nat), encode h = encode n ++ suf →
    ∃ s, h = n ++ s ∧ suf = encode s
  | [], h, suf, e => ⟨h, rfl, by simpa using e.symm⟩
  | c :: n, [], suf, e => by
    simp only [encode_nil, encode_cons, List.append_assoc] at e
    have := encodeChar_ne_nil c
    simp_all
  | c :: n, d :: h, suf, e => by
    simp only [encode_cons, List.append_assoc] at e
    obtain rfl := encodeChar_prefix_free d c _ _ e
    obtain ⟨s, rfl, rfl⟩ := encode_prefix n h suf (List.append_cancel_left e)
    exact ⟨s, rfl, rfl⟩

theorem encode_injective (a b : Str) (h : encode a = encode b) : a = b := by
  obtain ⟨s, rfl, hs⟩ := encode_prefix b a [] (by simpa using h)
  cases s with
  | nil => simp
  | cons c s =>
    have := encodeChar_ne_nil c
    simp_all

/-! ## self-synchronisation -/

/-- a byte-level occurrence of a well-formed non-empty needle in a well-formed haystack starts at a character
boundary: what precedes it is the encoding of a character prefix, and the occurrence is a character-level one -/
theorem encode_infix (c : Char) (n : Str) : ∀ (h : Str) (pre suf : List Nat),
    encode h = pre ++ encode (c :: n) ++ suf →
    ∃ p s, h = p ++ (c :: n) ++ s ∧ pre = encode p ∧ suf = encode s
  | [], pre, suf, e => by
    have := encodeChar_ne_nil c
    simp_all
  | d :: h, pre, suf, e => by
    rw [encode_cons, List.append_assoc] at e
    rcases List.append_eq_append_iff.mp e with ⟨t, ht, ht'⟩ | ⟨t, ht, ht'⟩
    · -- `pre = encodeChar d ++ t`: the occurrence lies in the rest
      obtain ⟨p, s, rfl, rfl, rfl⟩ := encode_infix c n h t suf (by rw [ht', List.append_assoc])
      exact ⟨d :: p, s, rfl, by rw [ht, encode_cons], rfl⟩
    · -- `encodeChar d = pre ++ t`: the occurrence starts at or after the start of the first character, before its end
      cases t with
      | nil =>
        -- exactly at its end: again in the rest
        obtain ⟨p, s, rfl, hp, rfl⟩ := encode_infix c n h [] suf (by simpa using ht'.symm)
        exact ⟨d :: p, s, rfl, by rw [encode_cons, ← hp]; simpa using ht.symm, rfl⟩
      | cons t0 t =>
        cases pre with
        | nil =>
          -- at its start: a well-formed prefix
          have e' : encode (d :: h) = encode (c :: n) ++ suf := by rw [encode_cons]; simpa using e
          obtain ⟨s, hs, rfl⟩ := encode_prefix (c :: n) (d :: h) suf e'
          exact ⟨[], s, by simpa using hs, rfl, rfl⟩
        | cons p0 pre =>
          -- strictly inside: the needle's lead byte `t0` would be a continuation byte of `d`
          exfalso
          obtain ⟨l, cs, hl, -, hcs⟩ := encodeChar_shape d
          obtain ⟨l', cs', hl', hnc, -⟩ := encodeChar_shape c
          rw [hl, List.cons_append, List.cons.injEq] at ht
          obtain ⟨-, rfl⟩ := ht
          rw [encode_cons, hl'] at ht'
          simp only [List.cons_append, List.cons.injEq] at ht'
          obtain ⟨rfl, -⟩ := ht'
          exact hnc (hcs _ (by simp))

end JL.Lemmas.Utf8
