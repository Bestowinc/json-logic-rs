import JL.Generated.Fns
import JL.Tie.get_key
import JL.Lemmas.TieG
/-! The proof reads the body `let` by `let` (`extract_lets missing_keys inner_vec k`: the vector of keys found missing, empty at
first; the items of the first operand when that is an array; and the continuation `k` that runs the fold over whichever list of
keys was chosen): robust to rewrites that keep these three bindings in this order. -/
namespace JL.Tie
open JL JL.Lemmas.TieG

theorem op_missing (d : Json) (xs : List Json) : Gen.op_missing d xs = JL.missing d xs := by
  unfold Gen.op_missing
  extract_lets missing_keys inner_vec k
  -- the fold (and the `?` on its outcome) from any list of keys and any vector of keys found missing so far
  have key : ∀ ks acc iv, k (ks, acc, iv) = (missingFold d ks acc >>= fun r => pure (Json.arr r)) := by
    intro ks acc iv
    simp only [k]
    refine foldMS_model_cases _ (fun ks (_ : Unit) acc => missingFold d ks acc >>= fun r => pure (Json.arr r))
      (fun _ acc => pure (Json.arr acc)) ?_ ?_ ?_ ks () acc
    · intro b s; rfl
    · intro s x; rfl
    · intro x xs b s
      simp only [try_into_key]
      cases hk : Data.keyOf x with
      | none => simp [missingFold, hk, tryS_ok, tryS_none]
      | some key =>
          cases hg : Data.getKey d key <;> cases key <;>
            simp [missingFold, hk, hg, get_key, rs]
  unfold JL.missing
  simp only [key, missing_keys, inner_vec]
  cases xs with
  | nil => rfl
  | cons a rest => cases a <;> rfl

end JL.Tie
