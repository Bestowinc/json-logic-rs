import JL.Generated.Fns
import JL.Tie.to_string
namespace JL.Tie
open JL
set_option linter.unusedSimpArgs false

/-- the string form `cat` gives each operand -/
def catPiece (i : Json) : Str := match i with | .str s => s | v => JsOp.toString v

theorem cat_fold (items : List Json) (acc : Str) (pieces : List (Option Str)) (step : Option Str → Option Str → Option Str)
    (hp : pieces = items.map (fun i => some (catPiece i)))
    (hs : ∀ a p, step (some a) (some p) = some (a ++ p)) :
    pieces.foldl step (some acc) = some (acc ++ (items.map catPiece).flatten) := by
  subst hp
  induction items generalizing acc with
  | nil => simp
  | cons i is ih => simp [hs, ih, List.append_assoc]

theorem cat_model (items : List Json) : StrOp.cat items = (items.map catPiece).flatten := by
  unfold StrOp.cat
  induction items with
  | nil => simp
  | cons i is ih => cases i <;> simp_all [catPiece, List.flatMap]

/-- The code folds a `Some(String)` over the operands' string forms; `simp only [rs]` leaves that fold as a `List.foldl … (some _)`
over a mapped list, which is the form `cat_fold` rewrites. `cat_fold` asks only that the list folded over is
`items.map (some ∘ catPiece)` and that one step appends - both closed on the spot, whatever the closure looks like (the
`to_string` tie for the non-string arm) - and gives the flattened pieces, which is `StrOp.cat` (`cat_model`). -/
theorem cat (items : List Json) : Gen.cat items = some (.str (StrOp.cat items)) := by
  unfold Gen.cat
  simp only [rs]
  rw [cat_fold items [] _ _ (by
        show List.map _ items = List.map _ items
        apply List.map_congr_left
        intro i _
        cases i <;> simp [catPiece, to_string])
      (by intro a p; rfl)]
  -- whatever surrounds the fold (a fast path for a single string operand, say) is settled by the shape of the operand list
  rcases items with _ | ⟨a, _ | ⟨b, rest⟩⟩ <;> (try cases a) <;> simp [cat_model, catPiece, rs, Rs.index]

end JL.Tie
