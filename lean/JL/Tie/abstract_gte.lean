import JL.Generated.Fns
import JL.Lemmas.TieAuto
import JL.Tie.to_number
namespace JL.Tie
open JL

/- see `abstract_lt`; the general call only: the short way of the other three leaves a leaf open here -/
theorem abstract_gte (a b : Json) : Gen.abstract_gte a b = JsOp.abstractGte a b := by
  tie_close [Gen.abstract_gte, ?Gen.abstract_lt, ?Gen.abstract_gt, ?Gen.abstract_lte,
      JsOp.abstractLt, JsOp.abstractGt, JsOp.abstractLte, JsOp.abstractGte, JsOp.toNumber, JsOp.toPrimitive,
      to_number, to_primitive, to_primitive_number, to_string, str_to_number]
    splitting JsOp.toPrimitiveNumber JsOp.strToNumber

end JL.Tie
