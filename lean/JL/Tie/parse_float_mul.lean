import JL.Generated.Fns
import JL.Lemmas.C10
import JL.Lemmas.TieLoops
import JL.Tie.parse_float
namespace JL.Tie
open JL JL.Lemmas.TieLoops
set_option linter.unusedSimpArgs false  -- which of the listed facts are used depends on how the source is spelled

/- see `abstract_max`: whichever way the accumulation is spelled, `rs_loop_opt` brings it to `List.foldlM JsOp.mulStep` -/
theorem parse_float_mul (vals : List Json) : Gen.parse_float_mul vals = JsOp.parseFloatMul vals := by
  unfold Gen.parse_float_mul
  rw [JsOp.parseFloatMul_foldlM]
  rs_loop_opt JsOp.mulStep
  intro a v
  simp only [parse_float, JsOp.mulStep]
  cases JsOp.parseFloat v <;> simp [rs]

end JL.Tie
