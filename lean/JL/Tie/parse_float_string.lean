import JL.Generated.Fns
import JL.Lemmas.TieAuto
import JL.Tie.split_sign
import JL.Tie.decimal_literal_len
namespace JL.Tie
open JL
set_option linter.unusedSimpArgs false

/- short way first, general call second: `TieAuto`, rule 6 -/
theorem parse_float_string (s : Str) : Gen.parse_float_string s = JsOp.parseFloatString s := by
  first
    | (simp only [Gen.parse_float_string, JsOp.parseFloatString, split_sign, decimal_literal_len, JsOp.trimStart, rs, tie]
       tie_cases JsOp.splitSign JsOp.rustParseF64
       all_goals (tie_close; done))
    | tie_close [Gen.parse_float_string, JsOp.parseFloatString, split_sign, decimal_literal_len, JsOp.trimStart]
        splitting JsOp.splitSign JsOp.rustParseF64

end JL.Tie
