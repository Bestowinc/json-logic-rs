import JL.Generated.Fns
import JL.Tie.get_str_key
namespace JL.Tie
open JL
set_option linter.unusedSimpArgs false  -- which of the listed facts are used depends on how the source is spelled

/- by cases on the key and on the kind of `data` (the model's own case analysis), each case closed by unfolding the library
calls and rewriting with the ties of the callees; where the model maps over the result of `Data.get`, that result is split too -/
theorem get_key (data : Json) (k : Data.Key) : Gen.get_key data k = Data.getKey data k := by
  unfold Gen.get_key Data.getKey
  cases k with
  | null => first | rfl | simp [rs]
  | string s => first | exact get_str_key data s | simp [rs, get_str_key]
  | number i =>
      cases data with
      | obj kvs => first | exact get_str_key _ _ | simp [rs, get_str_key]
      | arr xs => first | exact get xs i | (cases hg : Data.get xs i <;> simp [rs, get, hg])
      | str s => cases hg : Data.get s i <;> simp [rs, get, hg]
      | _ => first | rfl | simp [rs]

end JL.Tie
