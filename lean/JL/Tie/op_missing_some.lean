import JL.Generated.Fns
import JL.Tie.get_key
import JL.Lemmas.TieG
/-! The proof follows the body of the source up to the fold (operands by position, `as_u64` of the threshold, kind of the second
operand); the fold is then taken whole (`generalize`) and compared with `missingSomeFold` by `TieG.foldMS_pair_cases`, its step
hypothesis decided by `simp` after the model's case analysis on one key. A rewrite that reorders what precedes the fold needs
the proof revisited. -/
namespace JL.Tie
open JL JL.Lemmas.TieG

/-- (`h`: the arity table admits `missing_some` with exactly two operands) -/
theorem op_missing_some (d : Json) (xs : List Json) (h : 2 ≤ xs.length) : Gen.op_missing_some d xs = JL.missingSome d xs := by
  match xs, h with
  | thr :: keysArg :: rest, _ =>
  unfold Gen.op_missing_some JL.missingSome
  simp only [Rs.index, List.getElem?_cons_zero, List.getElem?_cons_succ, Option.getD_some]
  cases thr with
  | num n =>
    simp only [Rs.as_u64]
    cases hn : n.asU64 with
    | none => rfl
    | some threshold =>
      cases keysArg with
      | arr keys =>
        simp only [ok_or_some, Rs.ok, try_M, M.pure_bind]
        -- the fold: its result is the model's (count, keys found missing), or both fail
        generalize hp : Rs.foldMS _ _ _ _ = p
        have hres := foldMS_pair_cases (Fm := fun ks c m => missingSomeFold d threshold ks (c, m))
          (by intro b s; rfl) (by intro s x; rfl)
          (by
            intro x xs b s
            simp only [try_into_key, tryS_ok, List.nil_append]
            by_cases hb : threshold ≤ b
            · simp [missingSomeFold, hb, rs]
            · cases hk : Data.keyOf x with
              | none => simp [missingSomeFold, hb, hk, rs]
              | some key =>
                  cases hg : Data.getKey d key <;> cases key <;> cases hc : Json.contains s x <;>
                    simp [missingSomeFold, hb, hk, hg, hc, get_key, rs]) hp
        rcases hres with ⟨c, m, rfl, hm⟩ | ⟨m, rfl, hm⟩
        · have hm' : missingSomeFold d threshold keys (0, []) = ⟨[], .ok (c, m)⟩ := hm
          rw [hm']
          by_cases hc : threshold ≤ c <;> simp [hc, rs]
        · have hm' : missingSomeFold d threshold keys (0, []) = ⟨[], .err⟩ := hm
          rw [hm']
          rfl
      | _ => rfl
  | _ => rfl

end JL.Tie
