import JL.Generated.Fns
import JL.Lemmas.C10
import JL.Lemmas.TieLoops
import JL.Tie.to_number
namespace JL.Tie
open JL JL.Lemmas.TieLoops
set_option linter.unusedSimpArgs false  -- which of the listed facts are used depends on how the source is spelled

/- see `abstract_max`: whichever way the accumulation is spelled, `rs_loop_opt` brings it to `List.foldlM JsOp.minStep` -/
theorem abstract_min (items : List Json) : Gen.abstract_min items = JsOp.abstractMin items := by
  unfold Gen.abstract_min
  rw [JsOp.abstractMin_foldlM]
  rs_loop_opt JsOp.minStep
  intro a v
  simp only [to_number, JsOp.minStep]
  cases JsOp.toNumber v with
  | none => simp [rs]
  | some n => cases h : F64.lt n a <;> simp [rs, F64.gt, h]

end JL.Tie
