import JL.Generated.Fns
import JL.Lemmas.TieAuto
import JL.Tie.split_sign
import JL.Tie.radix_literal
import JL.Tie.decimal_literal_len
import JL.Lemmas.TieI
namespace JL.Tie
open JL
set_option linter.unusedSimpArgs false

theorem trim_matches_ws (s : Str) : Rs.trim_matches s JsOp.isJsWhitespace = JsOp.trimBoth s := by
  simp [rs, JsOp.trimBoth, JsOp.trimEnd, JsOp.trimStart]

/-! the byte-length test of the code is the character-count test of the model (`TieA.literal_len_bytes`), in the spellings
`a == b`, `b == a`, before and after the unfolding of `==` and `len` -/
theorem lit_len_eq (u : Str) : Rs.eq (JsOp.decimalLiteralLen u) (Rs.len u) = (JsOp.decimalLiteralLen u == u.length) :=
  JL.Lemmas.TieA.literal_len_bytes_beq u
theorem lit_len_eq' (u : Str) : Rs.eq (Rs.len u) (JsOp.decimalLiteralLen u) = (JsOp.decimalLiteralLen u == u.length) := by
  rw [← lit_len_eq]; simp only [rs]; exact Bool.beq_comm
theorem lit_len_beq (u : Str) :
    (JsOp.decimalLiteralLen u == (u.map Rs.utf8Len).sum) = (JsOp.decimalLiteralLen u == u.length) := lit_len_eq u
theorem lit_len_beq' (u : Str) :
    ((u.map Rs.utf8Len).sum == JsOp.decimalLiteralLen u) = (JsOp.decimalLiteralLen u == u.length) := lit_len_eq' u

/- short way first, general call second: `TieAuto`, rule 6. The short way also splits on `JsOp.trimBoth`: the code's emptiness test on the
trimmed string is decided by the value of that model function, not by a split on `==` (which the short way must not make); the
general call has its `split` for whatever test remains. -/
theorem str_to_number (s : Str) : Gen.str_to_number s = JsOp.strToNumber s := by
  first
    | (simp only [Gen.str_to_number, JsOp.strToNumber, split_sign, radix_literal, decimal_literal_len, ↓trim_matches_ws,
         ↓lit_len_eq, ↓lit_len_eq', lit_len_beq, lit_len_beq', rs, tie]
       tie_cases JsOp.trimBoth JsOp.radixLiteral JsOp.splitSign JsOp.rustParseF64
       all_goals (tie_close; done))
    | tie_close [Gen.str_to_number, JsOp.strToNumber, split_sign, radix_literal, decimal_literal_len, ↓trim_matches_ws,
          ↓lit_len_eq, ↓lit_len_eq', lit_len_beq, lit_len_beq']
        splitting JsOp.radixLiteral JsOp.splitSign JsOp.rustParseF64

end JL.Tie
