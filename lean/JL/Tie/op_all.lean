import JL.Generated.Fns
import JL.Tie.truthy_from_evaluated
import JL.Lemmas.C14
import JL.Lemmas.TieE
/-! see `op_map` (operand count, and how far the proof follows the body of the source). The three arms are the three ways the
collection is scanned: a literal array is scanned element expression by element expression (`quantLit_foldlM`: each is evaluated,
then tested); anything else is evaluated first and its items - of an array, or the characters of a string - are tested
(`quant_foldlM`). `op_some` is the same proof with `false` for `true`; `op_none` reduces to `op_some`. -/
namespace JL.Tie
open JL JL.Lemmas.C14 JL.Lemmas.TieE
set_option linter.unusedSimpArgs false

theorem op_all (d : Json) (xs : List Json) (h : 2 ≤ xs.length) : Gen.op_all d xs = run (.obj [("all".toList, .arr xs)]) d := by
  obtain ⟨c, p, rest, rfl⟩ := two_le xs h
  rw [run_all rfl, operands_arr]
  unfold Gen.op_all quantBody
  simp only [index0, index1]
  cases c with
  | arr items =>
    simp only [try_parsed]
    simp only [Rs.evaluate, try_M, and_then_M, map_M, strict_plain, foldM_bind_foldlM, Rs.ok, M.pure_bind, if_true]
    rw [quantLit_foldlM true (fun x => run p x) d]
    · cases items <;> cases check p <;> simp [rs]
    · intro res i
      cases res <;> simp [Rs.ok, truthy_from_evaluated]
  | obj kvs =>
    simp only [try_parsed]
    simp only [Rs.evaluate, try_M, and_then_M, map_M, strict_plain, foldM_bind_foldlM, Rs.ok, M.pure_bind, if_true]
    cases hc : check (Json.obj kvs)
    · simp [isObj, hc]
    · simp only [isObj, if_true, Bool.not_true, Bool.false_eq_true, if_false]
      congr 1; funext cv
      cases cv with
      | arr items =>
        dsimp only
        rw [quant_foldlM true (fun x => run p x)]
        · cases items <;> cases check p <;> simp [quantValue, quantItems, rs]
        · intro res i
          cases res <;> simp [Rs.ok, truthy_from_evaluated]
      | str s =>
        dsimp only
        simp only [map_list]
        rw [quant_foldlM true (fun x => run p x)]
        · cases s <;> cases check p <;> simp [quantValue, quantItems, rs]
        · intro res i
          cases res <;> simp [Rs.ok, truthy_from_evaluated]
      | _ => simp [quantValue, quantItems, rs]
  | str s =>
    simp only [try_parsed]
    simp only [Rs.evaluate, try_M, and_then_M, map_M, strict_plain, foldM_bind_foldlM, Rs.ok, M.pure_bind, if_true, isObj, map_list]
    rw [quant_foldlM true (fun x => run p x)]
    · cases s <;> cases check p <;> simp [quantValue, quantItems, rs]
    · intro res i
      cases res <;> simp [Rs.ok, truthy_from_evaluated]
  | _ => simp [quantValue, quantItems, rs, isObj]

end JL.Tie
