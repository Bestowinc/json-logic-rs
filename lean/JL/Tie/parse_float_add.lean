import JL.Generated.Fns
import JL.Lemmas.C10
import JL.Lemmas.TieLoops
import JL.Tie.parse_float
namespace JL.Tie
open JL JL.Lemmas.TieLoops
set_option linter.unusedSimpArgs false  -- which of the listed facts are used depends on how the source is spelled

/- see `abstract_max`: whichever way the accumulation is spelled, `rs_loop_opt` brings it to `List.foldlM JsOp.addStep` -/
theorem parse_float_add (vals : List Json) : Gen.parse_float_add vals = JsOp.parseFloatAdd vals := by
  unfold Gen.parse_float_add
  rw [JsOp.parseFloatAdd_foldlM]
  rs_loop_opt JsOp.addStep
  intro a v
  simp only [parse_float, JsOp.addStep]
  cases JsOp.parseFloat v <;> simp [rs]

end JL.Tie
