import JL.Generated.Fns
import JL.Lemmas.TieAuto
import JL.Lemmas.Json
import JL.Lemmas.ToString
namespace JL.Tie
open JL
set_option linter.unusedSimpArgs false

theorem list_fmap {α β : Type} (f : α → β) (xs : List α) : f <$> xs = List.map f xs := Lemmas.TieAuto.list_fmap f xs

/- The array arm: however the code goes over the elements (`iter().map(..)`, a `for` loop pushing into a vector, …), the simp set
`tie` turns it into `List.map f xs` for the code's per-element function `f`; on the elements of `xs` that function is the model's
`elemStr` (by the induction hypothesis - the code recurses only on elements), so the two maps agree (`List.map_congr_left`). -/
theorem to_string_go : ∀ (fuel : Nat) (v : Json), Json.depth v < fuel → Gen.to_string.go fuel v = JsOp.toString v
  | 0, _, h => absurd h (Nat.not_lt_zero _)
  | fuel + 1, v, h => by
      cases v with
      | arr xs =>
          have ih : ∀ x ∈ xs, Gen.to_string.go fuel x = JsOp.toString x := fun x hx =>
            to_string_go fuel x (by have := depth_le_depthList (xs := xs) (a := x) hx; simp only [Json.depth] at h; omega)
          simp only [Gen.to_string.go, rs, tie, List.nil_append, List.append_nil]
          rw [List.map_congr_left (g := elemStr)]
          · tie_close [toString_arr_eq_map]
          · intro x hx
            have := ih x hx
            cases x <;> tie_close [elemStr]
      | bool b => cases b <;> tie_close [Gen.to_string.go, toString_true, toString_false]
      | _ => tie_close [Gen.to_string.go, toString_obj, toString_null, toString_num, toString_str]

theorem to_string (v : Json) : Gen.to_string v = JsOp.toString v :=
  to_string_go _ v (Nat.lt_succ_self _)

end JL.Tie
