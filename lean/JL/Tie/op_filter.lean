import JL.Generated.Fns
import JL.Tie.truthy_from_evaluated
import JL.Lemmas.TieE
/-! see `op_map` (operand count, and how far the proof follows the body of the source) -/
namespace JL.Tie
open JL JL.Lemmas.C13 JL.Lemmas.TieE

theorem op_filter (d : Json) (xs : List Json) (h : 2 ≤ xs.length) : Gen.op_filter d xs = run (.obj [("filter".toList, .arr xs)]) d := by
  obtain ⟨c, e, rest, rfl⟩ := two_le xs h
  rw [run_filter rfl, operands_arr]
  unfold Gen.op_filter ev parsed
  simp only [index0, index1, try_parsed]
  simp only [Rs.evaluate, try_M, map_M, strict_plain, foldM_bind_foldlM]
  cases hc : check c
  · simp
  · simp only [if_true]
    congr 1; funext cv
    cases he : check e
    · cases cv <;> simp [collOf, Rs.err]
    · cases cv with
      | arr vals =>
        simp only [Rs.ok, Rs.new_, M.pure_bind]
        rw [filter_foldlM (fun x => run e x)]
        · simp [collOf]
        · intro acc x
          congr 1; funext p
          rw [truthy_from_evaluated]
          cases JL.truthy p <;> rfl
      | _ => simp [collOf, Rs.err, Rs.ok, Rs.new_, filterData_nil]

end JL.Tie
