import JL.Generated.Fns
import JL.Lemmas.TieAuto
import JL.Lemmas.TieC
import JL.Lemmas.StrNum
namespace JL.Tie
open JL JL.Lemmas.TieC
open JL.Lemmas.StrNum (toDigit_lt)
set_option linter.unusedSimpArgs false

/-- one prefix letter. The code is normalised first (the casts and float operations by the abstracted rules of `TieC`, never
unfolding `F64.ofNat`); its digit loop is then `radixLoop radix bits` by `for_radixLoop`, whatever the body looks like, provided
the body performs one step of `radixLoop` - which is checked by cases on the digit (`digit < 2^bits` gives `<< |` = `* +`);
what follows the loop is closed by cases on the loop's result. -/
local macro "radix_case" radix:num bits:num : tactic => `(tactic| (
  simp only [↓powi_two, ↓powi_two', ↓to_f64_nat, ↓mul_f64, ↓gt_nat, ↓to_u64_bool, rs, tie, JsOp.radixLiteral]
  rw [for_radixLoop $radix $bits (some none)]
  · -- (short way first, `TieAuto`, rule 6: the model's table of prefix letters decided, so that both sides name the same `radixLoop` value, split once)
    first
      | (simp only [Char.reduceBEq, Char.reduceBNe, Bool.or_true, Bool.true_or, Bool.or_false, Bool.false_eq_true, ↓reduceIte, or_sticky]
         tie_cases JsOp.radixLoop
         all_goals (tie_close [or_sticky]; done))
      | tie_close [or_sticky] splitting JsOp.radixLoop
  · intro acc shift sticky c
    cases h : JsOp.toDigit $radix c with
    | none => tie_close [h]
    | some d =>
      have := shl_or (bits := $bits) (toDigit_lt h) acc
      -- (`-Nat.reducePow`: `2 ^ 60` and `2 ^ bits` stay powers, as in the step equation, `shr_eq_zero` and `this`)
      tie_close [h, shr_eq_zero, this, -Nat.reducePow]))

theorem radix_literal (s : Str) : Gen.radix_literal s = JsOp.radixLiteral s := by
  unfold Gen.radix_literal
  -- the cases of the model: fewer than two characters, no leading `0`, each prefix letter, any other second character
  match s with
  | [] => tie_close [JsOp.radixLiteral]
  | [a] => tie_close [JsOp.radixLiteral]
  | a :: p :: digits =>
    by_cases ha : a = '0'
    · subst ha
      by_cases hx : p = 'x'
      · subst hx; radix_case 16 4
      by_cases hX : p = 'X'
      · subst hX; radix_case 16 4
      by_cases ho : p = 'o'
      · subst ho; radix_case 8 3
      by_cases hO : p = 'O'
      · subst hO; radix_case 8 3
      by_cases hb : p = 'b'
      · subst hb; radix_case 2 1
      by_cases hB : p = 'B'
      · subst hB; radix_case 2 1
      · tie_close [JsOp.radixLiteral, hx, hX, ho, hO, hb, hB]
    · tie_close [JsOp.radixLiteral, ha]

end JL.Tie
