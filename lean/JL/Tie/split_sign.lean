import JL.Generated.Fns
import JL.Lemmas.TieAuto
namespace JL.Tie
open JL

theorem split_sign (s : Str) : Gen.split_sign s = JsOp.splitSign s := by
  -- the cases of the model: empty, a leading `-`, a leading `+`, any other first character
  rcases s with _ | ⟨c, rest⟩
  · tie_close [Gen.split_sign, JsOp.splitSign]
  · by_cases h1 : c = '-'
    · subst h1; tie_close [Gen.split_sign, JsOp.splitSign]
    · by_cases h2 : c = '+'
      · subst h2; tie_close [Gen.split_sign, JsOp.splitSign]
      · unfold JsOp.splitSign; tie_close [Gen.split_sign, h1, h2]

end JL.Tie
