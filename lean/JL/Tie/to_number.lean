import JL.Generated.Fns
import JL.Lemmas.TieAuto
import JL.Tie.to_primitive
import JL.Tie.str_to_number
namespace JL.Tie
open JL

theorem to_number (v : Json) : Gen.to_number v = JsOp.toNumber v := by
  tie_close [Gen.to_number, JsOp.toNumber, JsOp.toPrimitive, to_primitive, to_primitive_number, to_string, str_to_number]
    splitting JsOp.toPrimitiveNumber

end JL.Tie
