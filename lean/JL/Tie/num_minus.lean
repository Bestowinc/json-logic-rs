import JL.Generated.Fns
import JL.Lemmas.Monad
import JL.Tie.to_negative
import JL.Tie.abstract_minus
import JL.Tie.to_number_value
/-! for at least one operand, as the arity table admits for `-` (one to two) -/
namespace JL.Tie
open JL
set_option linter.unusedSimpArgs false  -- which of the listed facts are used depends on how the source is spelled

/- by the model's own case analysis (one operand / at least two; does the helper succeed?), each case closed by one `simp`
that unfolds the function and the library calls and rewrites the callees with their ties wherever they end up being applied
(`helper(..)?` then `to_number_value(v)`, or `helper(..).and_then(to_number_value)`) -/
theorem num_minus (items : List Json) (h : 1 ≤ items.length) : Rs.ok_or (Gen.num_minus items) = execEager "-".toList items := by
  match items, h with
  | [a], _ =>
    unfold execEager
    cases hm : JsOp.toNegative a <;>
      simp [Gen.num_minus, to_negative, abstract_minus, to_number_value, rs, numResult, hm]
  | a :: b :: rest, _ =>
    unfold execEager
    cases hm : JsOp.abstractMinus a b <;>
      simp [Gen.num_minus, to_negative, abstract_minus, to_number_value, rs, numResult, hm]

end JL.Tie
