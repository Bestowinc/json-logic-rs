import JL.Generated.Fns
import JL.Lemmas.TieI
/-! The Rust code scans the UTF-8 bytes of the string, the model scans its characters. `JL/Lemmas/TieI.lean` has the
byte-level scan `scanB` (mantissa scan `mantB`, exponent scan `expB`) and proves `scanB (encode s) = decimalLiteralLen s`;
here the translated body is shown to be `scanB` of the bytes.

The proof reads the body `let` by `let` (nine bindings by position, among them the translator's two continuations `k_1`, `k_2`
with their argument tuple `((), mant_digits, end)`): robust only to rewrites that keep these bindings. -/
namespace JL.Tie
open JL JL.Lemmas.TieI

theorem decimal_literal_len (s : Str) : Gen.decimal_literal_len s = JsOp.decimalLiteralLen s := by
  rw [← scanB_encode]
  unfold Gen.decimal_literal_len
  extract_lets bytes digits_end int_end mant0 k_1 k_2 frac_end mant2 end2
  have hb : JL.Spec.Utf8.encode s = bytes := rfl
  rw [hb]
  have hde : ∀ f, digits_end f = f + dlB (bytes.drop f) := fun f => rfl
  -- the exponent continuation
  have hk1 : ∀ m e, k_1 ((), m, e) = e + expB (bytes.drop e) := by
    intro m e
    simp only [k_1, hde, rs, expB, List.getElem?_drop, List.drop_drop, Nat.add_zero]
    generalize bytes[e]? = a
    generalize bytes[e + 1]? = b
    generalize dlB (List.drop (e + 1) bytes) = n1
    generalize dlB (List.drop (e + 2) bytes) = n2
    -- the byte at `e`: `e`, `E`, or anything else; under an exponent letter the byte at `e + 1`: a sign or not; then whether any
    -- digit follows (`n2` / `n1` positive)
    split
    · split <;> simp_all <;> split <;> omega
    · split <;> simp_all <;> split <;> omega
    · simp_all
  have hk2 : ∀ m e, k_2 ((), m, e) = if m = 0 then 0 else e + expB (bytes.drop e) := by
    intro m e
    simp only [k_2, hk1, rs, beq_iff_eq]
  have h0 : int_end = dlB bytes := by
    simp only [int_end, hde]; simp
  clear_value k_1 k_2 digits_end
  -- the mantissa
  rw [eq_some_nat]
  simp only [hk2, scanB, mantB, rs, end2, mant2, frac_end, hde, mant0, h0, List.getElem?_drop, Nat.add_zero,
    decide_eq_true_eq]
  clear_value bytes
  generalize dlB (List.drop (dlB bytes + 1) bytes) = f
  generalize dlB bytes = i
  by_cases h : bytes[i]? = some 46
  · simp only [h, if_true]
    split <;> split <;> simp_all <;> omega
  · simp only [h, if_false]

end JL.Tie
