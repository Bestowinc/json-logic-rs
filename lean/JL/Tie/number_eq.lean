import JL.Generated.Fns
import JL.Lemmas.TieB
import JL.Lemmas.TieTactics
namespace JL.Tie
open JL JL.Lemmas.TieB
set_option linter.unusedSimpArgs false  -- which of the listed facts are used depends on how the source is spelled

/-- the `simp` that closes every case of `number_eq` below; `*`: the facts of the case (for a float operand on which the model's
`asInt` succeeds, that `as i128`, behind the name `g`, is exact on it) -/
syntax "number_eq_fin" : tactic
macro_rules
  | `(tactic| number_eq_fin) => `(tactic|
      simp [rs, Num.asU64, Num.asI64, Num.toF64, ArrOp.asInt, Option.filter_some, *])

/- The helper `as_int` (nested in `number_eq`, or hoisted to the top level under another name, or written with early
`return`s instead of `or_else` chains) is unfolded in place by `unfold_gen_aux`, which finds it without being told its name.
Then: the literal `1e30` and the test `fract() == 0.0` are folded to the model's terms BEFORE the library calls are unfolded,
`as i128` is hidden behind a name, and the model's own case analysis is made on both operands (spelling of the number; for a
float, whether `asInt` accepts it); every case is closed by the same `simp`. -/
theorem number_eq (a b : Num) : Gen.number_eq a b = ArrOp.numberEq a b := by
  unfold Gen.number_eq ArrOp.numberEq
  try unfold_gen_aux
  try simp only [lit1e30, fract_eq_zero]
  generalize h128 : Rs.to_i128 = g
  have hg := i128_exact g h128
  clear h128
  cases a with
  | pos x =>
      cases b with
      | pos y => number_eq_fin
      | neg y => number_eq_fin
      | flt y =>
          by_cases cy : (y.fractIsZero && F64.lt y.abs ArrOp.F1e30) = true
          · have gy := hg y cy; number_eq_fin
          · number_eq_fin
  | neg x =>
      cases b with
      | pos y => number_eq_fin
      | neg y => number_eq_fin
      | flt y =>
          by_cases cy : (y.fractIsZero && F64.lt y.abs ArrOp.F1e30) = true
          · have gy := hg y cy; number_eq_fin
          · number_eq_fin
  | flt x =>
      by_cases cx : (x.fractIsZero && F64.lt x.abs ArrOp.F1e30) = true
      · have gx := hg x cx
        cases b with
        | pos y => number_eq_fin
        | neg y => number_eq_fin
        | flt y =>
            by_cases cy : (y.fractIsZero && F64.lt y.abs ArrOp.F1e30) = true
            · have gy := hg y cy; number_eq_fin
            · number_eq_fin
      · cases b with
        | pos y => number_eq_fin
        | neg y => number_eq_fin
        | flt y =>
            by_cases cy : (y.fractIsZero && F64.lt y.abs ArrOp.F1e30) = true
            · have gy := hg y cy; number_eq_fin
            · number_eq_fin

end JL.Tie
