import JL.Generated.Fns
import JL.Tie.truthy_from_evaluated
import JL.Lemmas.TieD
import JL.Lemmas.C05
/-! see `op_or` -/
namespace JL.Tie
open JL JL.Lemmas.TieD

/-- the translated enum `AndResult` as the model's fold state -/
def andSt : Gen.op_and.AndResult → OrState
  | .Uninitialized => .uninit
  | .Falsey v => .decided v
  | .Current v => .current v

/-- one step of the translated fold of `and`, on an unwrapped state -/
def andStep (d : Json) (s : Gen.op_and.AndResult) (x : Json) : M Gen.op_and.AndResult :=
  match s with
  | .Falsey _ => pure s
  | _ => (if check x then pure (⟨x⟩ : Rs.Parsed) else M.err) >>= fun p => run p.rule d >>= fun e =>
      if !JL.truthy e then pure (.Falsey e) else pure (.Current e)

theorem and_fold (d : Json) (xs : List Json) (s : Gen.op_and.AndResult) :
    (foldBind (andStep d) xs s >>= fun r => (pure (andSt r) : M OrState)) = runOrAnd false xs (andSt s) d := by
  apply orAnd_fold
  · intro s v x h
    cases s <;> first | rfl | cases h
  · intro s x h
    cases s
    case Falsey v => exact absurd rfl (h v)
    all_goals
      simp only [andStep]
      by_cases hc : check x = true
      · simp only [hc, if_true, M.pure_bind, M.bind_assoc]
        congr 1; funext e
        cases JL.truthy e <;> simp [andSt]
      · simp [hc]

theorem op_and (d : Json) (xs : List Json) : Gen.op_and d xs = run (.obj [("and".toList, .arr xs)]) d := by
  rw [Lemmas.C05.run_oa_raw (.inr ⟨rfl, rfl⟩)]
  simp only []
  have h : (foldBind (andStep d) xs .Uninitialized >>= fun r => (pure (andSt r) : M OrState)) = runOrAnd false xs .uninit d :=
    and_fold d xs .Uninitialized
  rw [← h, M.bind_assoc]
  unfold Gen.op_and
  rw [foldM_bind' _ (andStep d)]
  · simp only [rs, bind_eq, M.pure_bind]
    congr 1; funext r
    cases r <;> simp [andSt, Lemmas.C05.readOut]
  · intro a x
    simp only [rs, truthy_from_evaluated]
    first
      | rfl
      | (congr 1; funext s; cases s <;> simp [andStep, bind_eq])

end JL.Tie
