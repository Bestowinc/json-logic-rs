import JL.Generated.Fns
import JL.Lemmas.TieAuto
import JL.Tie.to_primitive_number
import JL.Tie.to_string
namespace JL.Tie
open JL
set_option linter.unusedSimpArgs false

/- short way first, general call second: `TieAuto`, rule 6 -/
theorem abstract_plus (a b : Json) : Gen.abstract_plus a b = JsOp.abstractPlus a b := by
  first
    | (simp only [Gen.abstract_plus, JsOp.abstractPlus, to_primitive_number, to_string, rs, tie]
       tie_cases JsOp.toPrimitiveNumber Num.ofF64?
       all_goals (tie_close; done))
    | tie_close [Gen.abstract_plus, JsOp.abstractPlus, to_primitive_number, to_string]
        splitting JsOp.toPrimitiveNumber Num.ofF64?

end JL.Tie
