import JL.Generated.Fns
import JL.Lemmas.TieLoops
namespace JL.Tie
open JL JL.Lemmas.TieLoops
set_option linter.unusedSimpArgs false  -- which of the listed facts are used depends on how the source is spelled

/- The accumulation over the operands (a `fold` or a `for` loop) is brought to `List.foldl mergeStep` by `rs_loop_foldl`; the
model side is `foldl_mergeStep`. In the step equation, an array operand is spliced in by an inner loop (or by `extend`): that
loop is brought to `List.foldl (· ++ [·])` the same way (`foldl_push`). -/
theorem merge (items : List Json) : Gen.merge items = some (.arr (ArrOp.merge items)) := by
  unfold Gen.merge
  simp only [Rs.new_]
  rs_loop_foldl mergeStep
  case hb =>
    intro a i
    cases i with
    | arr xs =>
        first
          | (rs_loop_foldl (fun (a : List Json) (x : Json) => a ++ [x])
             case hb => intro a x; first | rfl | simp [rs]
             all_goals (simp only [foldl_push]; simp [rs, mergeStep]))
          | simp [rs, mergeStep]
    | _ => first | rfl | simp [rs, mergeStep]
  all_goals simp [rs, foldl_mergeStep]

end JL.Tie
