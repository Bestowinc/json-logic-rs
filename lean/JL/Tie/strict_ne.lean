import JL.Generated.Fns
import JL.Lemmas.TieAuto
import JL.Tie.strict_eq
namespace JL.Tie
open JL

theorem strict_ne (a b : Json) : Gen.strict_ne a b = JsOp.strictNe a b := by
  tie_close [Gen.strict_ne, JsOp.strictNe, strict_eq]

end JL.Tie
