import JL.Generated.Fns
import JL.Lemmas.TieAuto
import JL.Tie.to_number
namespace JL.Tie
open JL
set_option linter.unusedSimpArgs false

/- short way first, general call second: `TieAuto`, rule 6 -/
theorem abstract_minus (a b : Json) : Gen.abstract_minus a b = JsOp.abstractMinus a b := by
  first
    | (simp only [Gen.abstract_minus, JsOp.abstractMinus, to_number, rs, tie]
       tie_cases JsOp.toNumber
       all_goals (tie_close; done))
    | tie_close [Gen.abstract_minus, JsOp.abstractMinus, to_number] splitting JsOp.toNumber

end JL.Tie
