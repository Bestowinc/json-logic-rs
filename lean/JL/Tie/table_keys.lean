import JL.Generated.Fns
namespace JL.Tie
open JL

/-- The translated tables name exactly these operators - every operator of the crate - each once, in whatever order the source
lists them. A row that drops out of the translated subset (its function is no longer one the translator reads) makes this fail.

This module is on its own so that such a failure does not take the statements about the rows (`JL/Tie/tables.lean`) down with it.
Nothing imports it, and a check run does not rebuild it (a run builds `tables`, `knot` and the module of each function behind
the property): it is checked when the whole project is built. What a check run does re-check about the keys: `table_keys_sub`
(`tables.lean`: no foreign key, no key twice) and `tables_covered` (`knot.lean`: every key of the model's tables is bound in a
translated table - the statement that fails there when a row is lost; `knot` is rebuilt only while every function translates). -/
theorem table_keys :
    (Gen.eagerTable.map Prod.fst).Perm (["==", "!=", "===", "!==", "!", "!!", "<", "<=", ">", ">=", "+", "-", "*", "/", "%", "max", "min", "merge", "in", "cat", "substr"].map String.toList)
    ∧ (Gen.eagerTableM.map Prod.fst).Perm ["log".toList]
    ∧ (Gen.lazyTable.map Prod.fst).Perm (["if", "?:", "or", "and", "map", "filter", "reduce", "all", "some", "none"].map String.toList)
    ∧ (Gen.dataTable.map Prod.fst).Perm (["var", "missing", "missing_some"].map String.toList) := by
  decide +kernel

end JL.Tie
