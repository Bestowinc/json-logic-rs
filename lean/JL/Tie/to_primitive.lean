import JL.Generated.Fns
import JL.Lemmas.TieAuto
import JL.Tie.to_primitive_number
import JL.Tie.to_string
namespace JL.Tie
open JL

/-- the hint is `PrimitiveHint::Number` at every call site (the model's `toPrimitive` has no other mode) -/
theorem to_primitive (v : Json) : Gen.to_primitive v Rs.PrimitiveHint.Number = JsOp.toPrimitive v := by
  tie_close [Gen.to_primitive, JsOp.toPrimitive, to_primitive_number, to_string] splitting JsOp.toPrimitiveNumber

end JL.Tie
