import JL.Generated.Fns
import JL.Lemmas.TieE
/-! see `op_map` (operand count, and how far the proof follows the body of the source) -/
namespace JL.Tie
open JL JL.Lemmas.C13 JL.Lemmas.TieE
set_option linter.unusedSimpArgs false

theorem op_reduce (d : Json) (xs : List Json) (h : 3 ≤ xs.length) : Gen.op_reduce d xs = run (.obj [("reduce".toList, .arr xs)]) d := by
  obtain ⟨c, e, i, rest, rfl⟩ := three_le xs h
  rw [run_reduce rfl, operands_arr]
  unfold Gen.op_reduce ev parsed
  simp only [index0, index1, index2, try_parsed]
  simp only [Rs.evaluate, try_M, map_M, strict_plain, foldM_bind_foldlM, insert_ctx, reduceData_eq_foldlM]
  cases hc : check c
  · simp
  · simp only [if_true]
    congr 1; funext cv
    cases hi : check i
    · simp
    · simp only [if_true]
      congr 1; funext iv
      cases cv <;> cases he : check e <;> simp [collOf, Rs.err, Rs.ok, Rs.id_]

end JL.Tie
