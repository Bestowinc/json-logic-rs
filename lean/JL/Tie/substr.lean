import JL.Generated.Fns
import JL.Lemmas.TieC
import JL.Lemmas.C16
/-! two theorems, on the written-out operand lists of the two lengths the arity table admits for `substr` (two or three) -/
namespace JL.Tie
open JL JL.Lemmas.TieC
open JL.Lemmas.C16 (substrBounds_unfold)
set_option linter.unusedSimpArgs false  -- which of the listed facts are used depends on how the source is spelled

/- Both proofs: first rewrite the `usize` arithmetic on the `Rs` calls themselves (`TieC`: `checked_sub(..).unwrap_or(0)` and
`saturating_sub` are truncated subtraction, …), then make the model's own case analysis (kinds of the operands, whether
`as_i64` succeeds, signs of index and limit) with named constructors, and close every case with the same `simp` that unfolds
the remaining library calls and uses the facts of the case. Before the case analysis the library calls and the positional access to
the (written-out) operand list are unfolded once, so that a case in which the model says `none` because an operand is of the wrong
kind is closed by `rfl` (the `match` on that operand stands at the head) instead of a `simp` through the whole body. -/

theorem substr2 (s i : Json) : Gen.substr [s, i] = StrOp.substr s i none := by
  unfold Gen.substr StrOp.substr
  -- the `usize` arithmetic, rewritten before anything is unfolded
  simp only [unwrap_checked_sub, saturating_sub_eq, unwrap_checked_add, min_nat, count_eq, lt_int, ge_int, gt_int, le_int, try_into_eq,
    unsigned_abs_eq]
  simp only [rs, StrOp.intArg, List.length_cons, List.length_nil, List.getElem?_cons_zero, List.getElem?_cons_succ, Option.getD_some,
    Nat.reduceAdd, Nat.reduceLT, decide_true, decide_false, ↓reduceIte]
  cases s with
  | str str =>
      cases i with
      | num n =>
          cases hn : n.asI64 with
          | none => first | (simp only [hn]; done) | simp [rs, StrOp.intArg, hn]
          | some idx =>
              rcases sign_cases idx with ⟨h, h0⟩ | ⟨h, h0⟩ <;> simp [rs, StrOp.intArg, substrBounds_unfold, hn, h, h0]
      | _ => first | rfl | simp [rs, StrOp.intArg]
  | _ => first | rfl | simp [rs, StrOp.intArg]

theorem substr3 (s i l : Json) : Gen.substr [s, i, l] = StrOp.substr s i (some l) := by
  unfold Gen.substr StrOp.substr
  simp only [unwrap_checked_sub, saturating_sub_eq, unwrap_checked_add, min_nat, count_eq, lt_int, ge_int, gt_int, le_int, try_into_eq,
    unsigned_abs_eq]
  simp only [rs, StrOp.intArg, List.length_cons, List.length_nil, List.getElem?_cons_zero, List.getElem?_cons_succ, Option.getD_some,
    Nat.reduceAdd, Nat.reduceLT, decide_true, decide_false, ↓reduceIte]
  cases s with
  | str str =>
      cases i with
      | num n =>
          cases hn : n.asI64 with
          | none => first | (simp only [hn]; done) | simp [rs, StrOp.intArg, hn]
          | some idx =>
              cases l with
              | num m =>
                  cases hm : m.asI64 with
                  | none => first | (simp only [hn, hm]; done) | simp [rs, StrOp.intArg, hn, hm]
                  | some lim =>
                      rcases sign_cases idx with ⟨h, h0⟩ | ⟨h, h0⟩ <;> rcases sign_cases lim with ⟨h', h0'⟩ | ⟨h', h0'⟩ <;>
                        simp [rs, StrOp.intArg, substrBounds_unfold, hn, hm, h, h0, h', h0'] <;>
                        -- (`checked_add` taken apart by a `match` instead of `unwrap_or`: split on whether it overflows)
                        (try (split <;> simp_all <;> (try split) <;> omega))
              | _ => first | rfl | simp [rs, StrOp.intArg, hn]
      | _ => first | rfl | simp [rs, StrOp.intArg]
  | _ => first | rfl | simp [rs, StrOp.intArg]

end JL.Tie
