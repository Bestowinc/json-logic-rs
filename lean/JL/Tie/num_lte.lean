import JL.Generated.Fns
import JL.Tie.num_compare
import JL.Tie.abstract_lte
/-! `h`: see `num_compare` -/
namespace JL.Tie
open JL

theorem num_lte (items : List Json) (h : 2 ≤ items.length) : Rs.ok_or (Gen.num_lte items) = JL.compare JsOp.abstractLte items := by
  have hf : Gen.abstract_lte = JsOp.abstractLte := by
    funext a b; exact abstract_lte a b
  unfold Gen.num_lte
  rw [hf]
  exact num_compare _ items h

end JL.Tie
