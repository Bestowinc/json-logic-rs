import JL.Generated.Fns
import JL.Tie.truthy
import JL.Lemmas.TieD
import JL.Lemmas.C05
/-! The proof follows the body of the source in one respect: `ifStep` below is the closure of the translated fold, re-typed by hand on
an unwrapped state, and it is matched against the generated closure by `first | rfl | (congr 1; funext s; …)`. A rewrite that
changes what one step does in what order needs `ifStep` revisited; the induction (`if_fold`) is about `ifStep` and the model only. -/
namespace JL.Tie
open JL JL.Lemmas.TieD

/-- one step of the translated fold of `if`, on an unwrapped state `(last value, was truthy, should return)` - the triple of the
model's `runIf` (`Eval.lean`); the items come with their index, conditions at the even ones -/
def ifStep (d : Json) (s : Json × Bool × Bool) (iv : Nat × Json) : M (Json × Bool × Bool) :=
  if s.2.2 then pure s
  else if iv.1 % 2 == 0 then
    (if check iv.2 then pure (⟨iv.2⟩ : Rs.Parsed) else M.err) >>= fun p => run p.rule d >>= fun e =>
      pure (e, JL.truthy e, false)
  else if s.2.1 then
    (if check iv.2 then pure (⟨iv.2⟩ : Rs.Parsed) else M.err) >>= fun p => run p.rule d >>= fun t =>
      pure (t, true, true)
  else pure (Json.null, s.2.1, s.2.2)

theorem if_fold (d : Json) : ∀ (xs : List Json) (i : Nat) (s : Json × Bool × Bool),
    (foldBind (ifStep d) ((xs.zipIdx i).map (fun p => (p.2, p.1))) s >>= fun rv => (pure rv.1 : M Json)) = runIf xs i s d
  | [], i, s => by simp [runIf]
  | x :: xs, i, (l, w, r) => by
      have ih := if_fold d xs (i + 1)
      rw [List.zipIdx_cons, List.map_cons, foldBind_cons, M.bind_assoc]
      unfold runIf
      simp only [ifStep]
      cases r
      · simp only [Bool.false_eq_true, if_false]
        by_cases hi : (i % 2 == 0) = true
        · simp only [hi, if_true]
          by_cases hc : check x = true
          · simp only [hc, if_true, M.pure_bind, M.bind_assoc]
            congr 1; funext e
            simpa using ih _
          · simp [hc]
        · simp only [hi, if_false, Bool.false_eq_true]
          cases w
          · simpa using ih _
          · by_cases hc : check x = true
            · simp only [hc, if_true, M.pure_bind, M.bind_assoc]
              congr 1; funext e
              simpa using ih _
            · simp [hc]
      · simpa using ih _

theorem op_if (d : Json) (xs : List Json) : Gen.op_if d xs = run (.obj [("if".toList, .arr xs)]) d := by
  rw [Lemmas.C05.run_if_raw (.inl rfl)]
  unfold Gen.op_if
  match xs with
  | [] => simp [rs]
  | [x] =>
      by_cases hc : check x = true
      · simp [rs, hc, bind_eq, M.bind_mk_pure, Props.C05.ev]
      · simp [rs, hc, bind_eq, Props.C05.ev]
  | x :: y :: rest =>
      simp only []
      rw [← if_fold d (x :: y :: rest) 0 (.null, false, false)]
      simp only [Rs.len, Rs.RLen.len, List.length_cons]
      rw [foldM_bind' _ (ifStep d)]
      · simp only [rs, bind_eq, M.pure_bind, map_eq_bind]
      · intro a iv
        obtain ⟨i, v⟩ := iv
        simp only [rs, truthy]
        first
          | rfl
          | (congr 1; funext s
             obtain ⟨l, w, r⟩ := s
             simp only [ifStep, bind_eq]
             cases r <;> simp)

end JL.Tie
