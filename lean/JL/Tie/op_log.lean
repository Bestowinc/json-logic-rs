import JL.Generated.Fns
import JL.Lemmas.Monad
/-! for at least one operand (the arity table admits exactly one for `log`) -/
namespace JL.Tie
open JL

theorem op_log (items : List Json) (h : 1 ≤ items.length) : Gen.op_log items = execEager "log".toList items := by
  match items, h with
  | a :: rest, _ =>
    unfold execEager
    simp [Gen.op_log, rs, M.bind_def]

end JL.Tie
