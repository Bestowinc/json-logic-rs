import JL.Generated.Fns
import JL.Lemmas.TieAuto
import JL.Tie.abstract_eq
namespace JL.Tie
open JL

theorem abstract_ne (a b : Json) : Gen.abstract_ne a b = JsOp.abstractNe a b := by
  tie_close [Gen.abstract_ne, JsOp.abstractNe, abstract_eq]

end JL.Tie
