import JL.Generated.Fns
import JL.Lemmas.TieAuto
import JL.Tie.to_number
namespace JL.Tie
open JL
set_option linter.unusedSimpArgs false

/- see `abstract_lt` -/
theorem abstract_lte (a b : Json) : Gen.abstract_lte a b = JsOp.abstractLte a b := by
  first
    | (simp only [Gen.abstract_lte, JsOp.abstractLt, JsOp.abstractGt, JsOp.abstractLte, JsOp.abstractGte, to_primitive, str_to_number, rs, tie]
       tie_cases JsOp.toPrimitive JsOp.strToNumber
       all_goals (tie_close; done))
    | tie_close [Gen.abstract_lte, ?Gen.abstract_lt, ?Gen.abstract_gt, ?Gen.abstract_gte,
          JsOp.abstractLt, JsOp.abstractGt, JsOp.abstractLte, JsOp.abstractGte, JsOp.toNumber, JsOp.toPrimitive,
          to_number, to_primitive, to_primitive_number, to_string, str_to_number]
        splitting JsOp.toPrimitiveNumber JsOp.strToNumber

end JL.Tie
