import JL.Generated.Fns
import JL.Lemmas.TieAuto
namespace JL.Tie
open JL

theorem to_primitive_number (v : Json) : Gen.to_primitive_number v = JsOp.toPrimitiveNumber v := by
  cases v <;> tie_close [Gen.to_primitive_number, JsOp.toPrimitiveNumber]

end JL.Tie
