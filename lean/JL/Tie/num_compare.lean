import JL.Generated.Fns
import JL.Lemmas.Monad
/-! for operand lists of at least two items: the arity table admits two or three for the comparison operators, and `tables.lean`
discharges `h` from the arity. On a shorter list the code would index out of range: `Rs.index` then yields a default value, the
model's `compare` a panic, and the two sides differ. -/
namespace JL.Tie
open JL

theorem num_compare (f : Json → Json → Bool) (items : List Json) (h : 2 ≤ items.length) : Rs.ok_or (Gen.num_compare f items) = JL.compare f items := by
  match items, h with
  | [a, b], _ => simp [Gen.num_compare, JL.compare, rs]
  | a :: b :: c :: rest, _ => simp [Gen.num_compare, JL.compare, rs]

end JL.Tie
