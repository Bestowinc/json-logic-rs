import JL.Generated.Fns
/-! `check_len` of `src/op/mod.rs` against the model's arity test `Arity.isValidLen` (the model has no function of its own for it) -/
namespace JL.Tie
open JL

theorem check_len (a : Arity) (n : Nat) : Gen.check_len a n = if a.isValidLen n then some n else none := by
  cases h : a.isValidLen n <;> simp [Gen.check_len, rs, h]

end JL.Tie
