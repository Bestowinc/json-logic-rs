import JL.Generated.Fns
import JL.Tie.op_some
/-! `none` is `some` followed by a negation, in the code and in the model; `h`: see `op_map` -/
namespace JL.Tie
open JL JL.Lemmas.C14 JL.Lemmas.TieE

theorem op_none (d : Json) (xs : List Json) (h : 2 ≤ xs.length) : Gen.op_none d xs = run (.obj [("none".toList, .arr xs)]) d := by
  unfold Gen.op_none
  rw [op_some d xs h]
  obtain ⟨c, p, rest, rfl⟩ := two_le xs h
  rw [run_none rfl, run_some rfl, operands_arr, and_then_M]
  congr 1; funext rv
  cases rv <;> rfl

end JL.Tie
