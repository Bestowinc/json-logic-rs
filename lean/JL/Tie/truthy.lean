import JL.Generated.Fns
import JL.Lemmas.TieAuto
namespace JL.Tie
open JL

theorem truthy (v : Json) : Gen.truthy v = JL.truthy v := by
  cases v <;> tie_close [Gen.truthy, JL.truthy]

end JL.Tie
