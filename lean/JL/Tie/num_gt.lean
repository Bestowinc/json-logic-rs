import JL.Generated.Fns
import JL.Tie.num_compare
import JL.Tie.abstract_gt
/-! `h`: see `num_compare` -/
namespace JL.Tie
open JL

theorem num_gt (items : List Json) (h : 2 ≤ items.length) : Rs.ok_or (Gen.num_gt items) = JL.compare JsOp.abstractGt items := by
  have hf : Gen.abstract_gt = JsOp.abstractGt := by
    funext a b; exact abstract_gt a b
  unfold Gen.num_gt
  rw [hf]
  exact num_compare _ items h

end JL.Tie
