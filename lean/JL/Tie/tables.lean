import JL.Generated.Fns
import JL.Tie.abstract_eq
import JL.Tie.abstract_ne
import JL.Tie.strict_eq
import JL.Tie.strict_ne
import JL.Tie.truthy
import JL.Tie.parse_float_add
import JL.Tie.parse_float_mul
import JL.Tie.abstract_div
import JL.Tie.abstract_mod
import JL.Tie.abstract_max
import JL.Tie.abstract_min
import JL.Tie.to_number_value
import JL.Tie.num_minus
import JL.Tie.num_lt
import JL.Tie.num_lte
import JL.Tie.num_gt
import JL.Tie.num_gte
import JL.Tie.in_
import JL.Tie.merge
import JL.Tie.substr
import JL.Tie.op_log
import JL.Tie.op_if
import JL.Tie.op_or
import JL.Tie.op_and
import JL.Tie.op_map
import JL.Tie.op_filter
import JL.Tie.op_reduce
import JL.Tie.op_all
import JL.Tie.op_some
import JL.Tie.op_none
import JL.Tie.op_var
import JL.Tie.cat
import JL.Tie.op_missing
import JL.Tie.op_missing_some
import JL.Lemmas.TieF
import JL.Lemmas.Exec
import JL.Lemmas.Tables
/-! The operator tables: for every row of a translated table, the function it binds, applied to an operand list whose length the
row's arity admits, is the model's `execEager` / `run` / `execData` for the row's key. -/
namespace JL.Tie
open JL JL.Lemmas.TieF
set_option linter.unusedSimpArgs false  -- one tactic serves every row: which facts it uses depends on the row

/-! The theorems about the rows of the operator tables do not depend on the order of the rows, on their number (a row whose
function is outside the translated subset is simply absent) or on the layout of the source: `∀ row ∈ table` is turned into one
goal per row, whatever their number, and EVERY row is closed by the same text:

* the arity descriptor of the (now written-out) key is read off the model's table (`lookupOp_of_mem`, the `lookup_*` lemmas: rewriting,
  no evaluation), and `hn` becomes arithmetic about the operand count;
* the bound function is rewritten with the tie theorems of the functions it mentions (all of them are offered; a side condition
  `n ≤ length` follows from `hn` by `omega`), a wrapper function of mod.rs (translated as an auxiliary) is unfolded by `rs`;
* for the eager table the model's branch for the key is `execEager_row`, the operand list is taken apart as far as the arity
  bounds its length, and `simp [rs]` compares.
No step tries alternatives against a goal with another key in it: unifying two different `"…".toList` evaluates both. -/

/-- the tail `helper(..).and_then(to_number_value)` of the arithmetic rows, read as a `Result`, is the model's `numResult` -/
theorem numResult_tie (o : Option F64) : Rs.ok_or (Rs.and_then o Gen.to_number_value) = numResult o := by
  cases o <;> simp [rs, numResult, JL.Tie.to_number_value]

/-- every operator the eager table binds to a translated function: applied to operands of an admitted count, that function is the
model's `execEager` for that operator -/
theorem eager_table (k : Str) (f : List Json → Option Json) (hk : (k, f) ∈ Gen.eagerTable) (ar : Arity) (hl : lookupOp k = some (.eager, ar))
    (items : List Json) (hn : ar.isValidLen items.length = true) : Rs.ok_or (f items) = execEager k items := by
  have look : ∀ e ∈ Tables.eager, lookupOp e.key = some (.eager, e.arity) := fun _ he => lookupOp_of_mem (kind := .eager) he
  simp only [Tables.eager, List.forall_mem_cons] at look
  have rows := execEager_row
  simp only [eagerRows, List.forall_mem_cons] at rows
  suffices h : ∀ p ∈ Gen.eagerTable, ∀ ar, lookupOp p.1 = some (.eager, ar) → ∀ items, ar.isValidLen items.length = true →
      Rs.ok_or (p.2 items) = execEager p.1 items from h (k, f) hk ar hl items hn
  simp only [Gen.eagerTable, List.forall_mem_cons, List.not_mem_nil, false_imp_iff, implies_true, and_true]
  repeat' apply And.intro
  all_goals
    intro ar hl items hn
    simp only [look, Option.some.injEq, Prod.mk.injEq, true_and] at hl
    subst hl
    simp only [Arity.isValidLen, beq_iff_eq, decide_eq_true_eq, Bool.and_eq_true] at hn
    clear look
    try simp (disch := omega) only [numResult_tie, num_lt, num_lte, num_gt, num_gte, num_minus, merge, cat, parse_float_add,
      parse_float_mul, abstract_max, abstract_min, abstract_div, abstract_mod, abstract_eq, abstract_ne, strict_eq, strict_ne, truthy]
    -- (the nested `all_goals` mean "if the goal is still open": the `simp` before each may have closed the row)
    all_goals
      simp only [rows]
      all_goals
        clear rows
        -- operand lists of the admitted lengths, spelled out up to four items
        rcases items with _ | ⟨a, _ | ⟨b, _ | ⟨c, _ | ⟨d, rest⟩⟩⟩⟩
        all_goals first
          | (simp only [List.length_cons, List.length_nil] at hn; omega)
          | (simp [rs, JL.compare, numResult_tie, num_lt, num_lte, num_gt, num_gte, num_minus, in_, substr2, substr3, merge, cat,
               parse_float_add, parse_float_mul, abstract_max, abstract_min, abstract_div, abstract_mod, abstract_eq, abstract_ne,
               strict_eq, strict_ne, truthy]
             all_goals (try (split <;> simp_all [rs])))

theorem eager_table_log (k : Str) (f : List Json → M Json) (hk : (k, f) ∈ Gen.eagerTableM) (ar : Arity) (hl : lookupOp k = some (.eager, ar))
    (items : List Json) (hn : ar.isValidLen items.length = true) : f items = execEager k items := by
  have look : ∀ e ∈ Tables.eager, lookupOp e.key = some (.eager, e.arity) := fun _ he => lookupOp_of_mem (kind := .eager) he
  simp only [Tables.eager, List.forall_mem_cons] at look
  suffices h : ∀ p ∈ Gen.eagerTableM, ∀ ar, lookupOp p.1 = some (.eager, ar) → ∀ items, ar.isValidLen items.length = true →
      p.2 items = execEager p.1 items from h (k, f) hk ar hl items hn
  simp only [Gen.eagerTableM, List.forall_mem_cons, List.not_mem_nil, false_imp_iff, implies_true, and_true]
  repeat' apply And.intro
  all_goals
    intro ar hl items hn
    simp only [look, Option.some.injEq, Prod.mk.injEq, true_and] at hl
    subst hl
    simp only [Arity.isValidLen, beq_iff_eq, decide_eq_true_eq, Bool.and_eq_true] at hn
    simp (disch := omega) only [rs, op_log]

/-- every lazy operator: the function the table binds to it is the model's `run` on a rule with that operator -/
theorem lazy_table (k : Str) (f : Json → List Json → M Json) (hk : (k, f) ∈ Gen.lazyTable) (ar : Arity) (hl : lookupOp k = some (.lazy, ar))
    (d : Json) (xs : List Json) (hn : ar.isValidLen xs.length = true) : f d xs = run (.obj [(k, .arr xs)]) d := by
  suffices h : ∀ p ∈ Gen.lazyTable, ∀ ar, lookupOp p.1 = some (.lazy, ar) → ∀ xs, ar.isValidLen xs.length = true →
      p.2 d xs = run (.obj [(p.1, .arr xs)]) d from h (k, f) hk ar hl xs hn
  simp only [Gen.lazyTable, List.forall_mem_cons, List.not_mem_nil, false_imp_iff, implies_true, and_true]
  repeat' apply And.intro
  all_goals
    intro ar hl xs hn
    simp only [lookup_if, lookup_tern, lookup_or, lookup_and, lookup_map, lookup_filter, lookup_reduce, lookup_all, lookup_some,
      lookup_none, Option.some.injEq, Prod.mk.injEq, true_and] at hl
    subst hl
    simp only [Arity.isValidLen, beq_iff_eq, decide_eq_true_eq, Bool.and_eq_true] at hn
    -- `?:` is bound to the function of `if` (`run_tern`)
    simp (disch := omega) only [rs, op_if, op_or, op_and, op_map, op_filter, op_reduce, op_all, op_some, op_none, Lemmas.C05.run_tern]

theorem data_table (k : Str) (f : Json → List Json → M Json) (hk : (k, f) ∈ Gen.dataTable) (ar : Arity) (hl : lookupOp k = some (.data, ar))
    (d : Json) (items : List Json) (hn : ar.isValidLen items.length = true) : f d items = execData k d items := by
  suffices h : ∀ p ∈ Gen.dataTable, ∀ ar, lookupOp p.1 = some (.data, ar) → ∀ items, ar.isValidLen items.length = true →
      p.2 d items = execData p.1 d items from h (k, f) hk ar hl items hn
  simp only [Gen.dataTable, List.forall_mem_cons, List.not_mem_nil, false_imp_iff, implies_true, and_true]
  repeat' apply And.intro
  all_goals
    intro ar hl items hn
    simp only [lookup_var, lookup_missing, lookup_missing_some, Option.some.injEq, Prod.mk.injEq, true_and] at hl
    subst hl
    simp only [Arity.isValidLen, beq_iff_eq, decide_eq_true_eq, Bool.and_eq_true] at hn
    simp (disch := omega) only [rs, op_var, op_missing, op_missing_some, execData_var, execData_missing, execData_missing_some]


/-- every key of a translated table is one of the operators the model knows for that table, and no key occurs twice. It stays true
when a row drops out of the translated subset (unlike `table_keys`, `JL/Tie/table_keys.lean`, which asks for every key). It is
re-checked with this module on every run; the table theorems above do not use it: they read the arity of a row's key off the
model's table themselves, and `knot.lean` gets from a key to its row by `tables_covered`. -/
theorem table_keys_sub :
    ((Gen.eagerTable.map Prod.fst).all (fun k => (["==", "!=", "===", "!==", "!", "!!", "<", "<=", ">", ">=", "+", "-", "*", "/", "%", "max", "min", "merge", "in", "cat", "substr"].map String.toList).contains k) = true
      ∧ (Gen.eagerTable.map Prod.fst).Nodup)
    ∧ ((Gen.eagerTableM.map Prod.fst).all (fun k => ["log".toList].contains k) = true ∧ (Gen.eagerTableM.map Prod.fst).Nodup)
    ∧ ((Gen.lazyTable.map Prod.fst).all (fun k => (["if", "?:", "or", "and", "map", "filter", "reduce", "all", "some", "none"].map String.toList).contains k) = true
      ∧ (Gen.lazyTable.map Prod.fst).Nodup)
    ∧ ((Gen.dataTable.map Prod.fst).all (fun k => (["var", "missing", "missing_some"].map String.toList).contains k) = true ∧ (Gen.dataTable.map Prod.fst).Nodup) := by
  decide +kernel

end JL.Tie
