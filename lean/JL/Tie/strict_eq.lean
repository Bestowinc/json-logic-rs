import JL.Generated.Fns
import JL.Lemmas.TieAuto
namespace JL.Tie
open JL

theorem strict_eq (a b : Json) : Gen.strict_eq a b = JsOp.strictEq a b := by
  cases a <;> cases b <;> tie_close [Gen.strict_eq, JsOp.strictEq]

end JL.Tie
