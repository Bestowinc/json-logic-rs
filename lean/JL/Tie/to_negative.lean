import JL.Generated.Fns
import JL.Lemmas.TieAuto
import JL.Tie.to_number
namespace JL.Tie
open JL

theorem to_negative (v : Json) : Gen.to_negative v = JsOp.toNegative v := by
  tie_close [Gen.to_negative, JsOp.toNegative, to_number, F64.one, F64.negate] splitting JsOp.toNumber

end JL.Tie
