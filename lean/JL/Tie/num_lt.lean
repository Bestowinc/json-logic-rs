import JL.Generated.Fns
import JL.Tie.num_compare
import JL.Tie.abstract_lt
/-! `h`: see `num_compare` -/
namespace JL.Tie
open JL

theorem num_lt (items : List Json) (h : 2 ≤ items.length) : Rs.ok_or (Gen.num_lt items) = JL.compare JsOp.abstractLt items := by
  have hf : Gen.abstract_lt = JsOp.abstractLt := by
    funext a b; exact abstract_lt a b
  unfold Gen.num_lt
  rw [hf]
  exact num_compare _ items h

end JL.Tie
