import JL.Generated.Fns
import JL.Lemmas.C10
import JL.Lemmas.TieLoops
import JL.Tie.to_number
namespace JL.Tie
open JL JL.Lemmas.TieLoops
set_option linter.unusedSimpArgs false  -- which of the listed facts are used depends on how the source is spelled

/- The accumulation may be spelled `iter.map(..).fold(Ok(init), ..)`, `iter.fold(Ok(init), ..)` or as a `for` loop with `?`:
`rs_loop_opt` (`TieLoops`) brings each spelling to the model's `List.foldlM JsOp.maxStep`; what is left is the step equation, proved
the same way whatever the spelling: split on what the model's step looks at, then `simp [rs]`. -/
theorem abstract_max (items : List Json) : Gen.abstract_max items = JsOp.abstractMax items := by
  unfold Gen.abstract_max
  rw [JsOp.abstractMax_foldlM]
  rs_loop_opt JsOp.maxStep
  intro a v
  simp only [to_number, JsOp.maxStep]
  cases JsOp.toNumber v with
  | none => simp [rs]
  | some n => cases h : F64.lt a n <;> simp [rs, F64.gt, h]

end JL.Tie
