import JL.Generated.Fns
import JL.Tie.get_key
namespace JL.Tie
open JL

theorem op_var (d : Json) (xs : List Json) : Gen.op_var d xs = JL.var d xs := by
  unfold Gen.op_var JL.var
  cases xs with
  | nil => simp [rs]
  | cons k rest =>
      simp only [rs, get_key, List.length_cons]
      cases hk : Data.keyOf k with
      | none => simp [hk]
      | some key =>
          cases hv : Data.getKey d key with
          | some v => simp [hk, hv]
          | none =>
              cases rest with
              | nil => simp [hk, hv]
              | cons dflt tl =>
                  have h2 : ¬ (tl.length + 1 + 1 < 2) := by omega
                  simp [hk, hv, h2]

end JL.Tie
