import JL.Generated.Fns
import JL.Lemmas.TieE
/-! For operand lists the arity table admits (`h`; a shorter list would index out of range). The proof follows the body of the
source: it is unfolded, the prelude calls in `M` are rewritten to `>>=` / `if check` (`TieE`) in the order the code makes them, and
`congr 1; funext` steps under each bind in turn. A rewrite that reorders the evaluations or restructures the fold needs the proof
revisited (`TieAuto`, rule 5, does not hold here). -/
namespace JL.Tie
open JL JL.Lemmas.C13 JL.Lemmas.TieE

theorem op_map (d : Json) (xs : List Json) (h : 2 ≤ xs.length) : Gen.op_map d xs = run (.obj [("map".toList, .arr xs)]) d := by
  obtain ⟨c, e, rest, rfl⟩ := two_le xs h
  rw [run_map rfl, operands_arr]
  unfold Gen.op_map ev parsed
  simp only [index0, index1, try_parsed]
  simp only [Rs.evaluate, try_M, collect_map_data, map_M]
  cases hc : check c
  · simp
  · simp only [if_true]
    congr 1; funext cv
    cases cv <;> cases he : check e <;> simp [collOf, Rs.err]

end JL.Tie
