import JL.Generated.Fns
import JL.Tie.check_len
/-! `op_from_map` of `src/op/mod.rs` is how the model's `check` recognises an operation and validates the shape and count of its
operands: the model has no function of its own for it, so the right-hand side is `opFromMapSpec`, written from `check`. -/
namespace JL.Tie
open JL

/-- What `op_from_map(table, value)` must compute, written from the model's `check`: `none` = `Err` (the value is rejected),
`some none` = not an operation of this table (a literal as far as this table is concerned), `some (some (ar, operands))` = an
operation of this table with its operand list (a non-array operand is a one-element list, when the arity admits that). -/
def opFromMapSpec {τ : Type} (ar : τ → Arity) (lk : Str → Option τ) : Json → Option (Option (τ × List Json))
  | .obj [(k, val)] =>
      match lk k with
      | none => some none
      | some op =>
          match val with
          | .arr xs => if (ar op).isValidLen xs.length then some (some (op, xs)) else none
          | x => if (ar op).canAcceptUnary then (if (ar op).isValidLen 1 then some (some (op, [x])) else none) else none
  | _ => some none

/-- the table is a lookup function `lk`; an operator is the reference of its table entry (`Rs.OpRef`: key and arity) -/
theorem op_from_map (lk : Str → Option Rs.OpRef) (v : Json) : Gen.op_from_map lk v = opFromMapSpec Rs.OpRef.arity lk v := by
  cases v with
  | obj kvs =>
    match kvs with
    | [] => simp [Gen.op_from_map, opFromMapSpec, rs]
    | _ :: _ :: _ => simp [Gen.op_from_map, opFromMapSpec, rs]
    | [(k, val)] =>
      cases hl : lk k with
      | none => simp [Gen.op_from_map, opFromMapSpec, rs, Json.lookup, hl]
      | some op =>
        cases val with
        | arr xs =>
          cases hv : op.arity.isValidLen xs.length <;>
            simp [Gen.op_from_map, opFromMapSpec, rs, Json.lookup, hl, check_len, hv]
        | _ =>
          cases hu : op.arity.canAcceptUnary <;> cases h1 : op.arity.isValidLen 1 <;>
            simp [Gen.op_from_map, opFromMapSpec, rs, Json.lookup, hl, check_len, hu, h1]
  | _ => simp [Gen.op_from_map, opFromMapSpec]

/-- `opFromMapSpec` is what `check` does: the model's parse phase is exactly this recognition (here over the union of the three
tables, `lookupOp`, with the arity read off directly - the reason `opFromMapSpec` is generic in `τ` and `ar`), followed by the
recursive parse of the operands of eager and data operations. Nothing rests on this theorem: `knot.lean` relates `opFromMapSpec`
to `check` through `parseSpec` (`fromValueSpec_obj`, `parseSpec_isSome`); it is the direct statement of the same fact. -/
theorem check_via_spec (k : Str) (val : Json) :
    check (.obj [(k, val)]) =
      match opFromMapSpec id (fun k => (lookupOp k).map Prod.snd) (.obj [(k, val)]) with
      | none => false
      | some none => true
      | some (some (_, xs)) => ((lookupOp k).map Prod.fst == some Kind.lazy) || checkList xs := by
  unfold check
  cases hl : lookupOp k with
  | none => simp [opFromMapSpec, hl]
  | some p =>
    obtain ⟨kind, ar⟩ := p
    cases val with
    | arr xs => cases hv : ar.isValidLen xs.length <;> simp [opFromMapSpec, hl, hv]
    | _ =>
      cases hu : ar.canAcceptUnary <;> cases h1 : ar.isValidLen 1 <;>
        simp [opFromMapSpec, hl, hu, h1, checkList]

end JL.Tie
