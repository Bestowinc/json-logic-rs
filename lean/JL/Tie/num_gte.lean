import JL.Generated.Fns
import JL.Tie.num_compare
import JL.Tie.abstract_gte
/-! `h`: see `num_compare` -/
namespace JL.Tie
open JL

theorem num_gte (items : List Json) (h : 2 ≤ items.length) : Rs.ok_or (Gen.num_gte items) = JL.compare JsOp.abstractGte items := by
  have hf : Gen.abstract_gte = JsOp.abstractGte := by
    funext a b; exact abstract_gte a b
  unfold Gen.num_gte
  rw [hf]
  exact num_compare _ items h

end JL.Tie
