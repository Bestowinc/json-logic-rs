import JL.Generated.Fns
import JL.Lemmas.C11
import JL.Lemmas.TieLoops
import JL.Tie.get
import JL.Tie.split_with_escape
namespace JL.Tie
set_option linter.unusedSimpArgs false  -- which of the listed facts are used depends on how the source is spelled
open JL JL.Lemmas.TieLoops

/- The walk along the path segments may be a `fold` with an `Option` accumulator or a `for` loop over `let mut current` with
`?`; `rs_loop_opt` brings either to `List.foldlM Data.step`, which is the model's `Data.walk` (`C11.walk_eq_foldlM`). Before that,
the emptiness test on the key (however it is spelled) and the `match` on the kind of `data` are decided by case analysis, so
that the loop stands in the goal without bound variables. The step equation is proved by splitting on everything `Data.step`
looks at and `simp [rs, …]` with the facts so obtained. -/
theorem get_str_key (data : Json) (k : Str) : Gen.get_str_key data k = Data.getStrKey data k := by
  unfold Gen.get_str_key Data.getStrKey
  simp only [Lemmas.C11.walk_eq_foldlM, split_with_escape]
  cases k with
  | nil => simp [rs]
  | cons c cs =>
      -- the key is not empty, whichever way the code asks
      have e1 : Rs.is_empty (c :: cs) = false := rfl
      have e2 : Rs.eq (c :: cs) ([] : Str) = false := rfl
      have e3 : Rs.eq ([] : Str) (c :: cs) = false := rfl
      have e4 : (c :: cs : Str).isEmpty = false := rfl
      simp only [e1, e2, e3, e4, Bool.false_eq_true, if_false, Bool.not_false, if_true]
      cases data
      all_goals try dsimp only
      all_goals
        rs_loop_opt Data.step
        intro a seg
        cases a with
        | obj kvs => cases hl : Json.lookup seg kvs <;> simp [rs, Data.step, hl]
        | arr xs =>
            cases hp : Data.parseI64 seg with
            | none => simp [rs, Data.step, hp]
            | some i => cases hg : Data.get xs i <;> simp [rs, Data.step, get, hp, hg]
        | str s =>
            cases hp : Data.parseI64 seg with
            | none => simp [rs, Data.step, hp]
            | some i => cases hg : Data.get s i <;> simp [rs, Data.step, get, hp, hg]
        | _ => simp [rs, Data.step]

end JL.Tie
