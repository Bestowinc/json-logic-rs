import JL.Generated.Fns
import JL.Tie.op_from_map
import JL.Tie.tables
import JL.Lemmas.C01
import JL.Lemmas.C03
import JL.Lemmas.Tables
import JL.Lemmas.Run
/-! The parse / evaluate layer (`Operation`, `LazyOperation`, `DataOperation`, `Raw`, `Parsed`, `apply`), as translated from the crate's
current source, is the model's `check` / `run` / `apply` - for every rule and every data.

The parse tree is specified from the model's `check` (`parseSpec`). No key stands in two of the three tables (`lookupOp_of_mem`), so
at most one of the `from_value`s that `Parsed::from_value` tries answers `Some`, and every key of theirs is bound in the translated
tables (`tables_covered`). Parse phase (`go_spec`): with fuel `≥ 3 * depth + 3` the fuelled `Parsed_from_value.go` is `parseSpec`, by
strong induction on the fuel; `parseSpec_isSome` by the induction principle of `check`. Evaluation phase (`eval_go_spec`): with fuel
`≥ 2 * depth of the tree` the fuelled `Parsed_evaluate.go` on the tree of `v` is `run v`, by strong induction on the fuel; the
operator call is the model's `execEager` / `run` / `execData` by the table ties, on operand lists of the admitted length, which
`runList` preserves.

Unlike the ties of the single functions, this file follows the generated definitions. The fuel arithmetic (`f + 3`, `f + 2`,
`3 * depth + 3`, `2 * depth`) is the call graph of the two generated `mutual` blocks, `Parsed → {Operation, Lazy, Data, Raw} →
Parsed_from_values → Parsed`: three calls per JSON level when parsing, two per tree level when evaluating; a rewrite that changes
this graph changes the bounds. The `*_go_succ` / `eval_go_*` lemmas restate one unfolding of each generated function and are
proved by stepping through its body (`congr`/`funext`, `conv … unfold`, one `rename_i`): they are the part to revisit after a
rewrite of `src/op/mod.rs` or `src/value.rs`; everything after them is about `parseSpec` and the model.

Inside `namespace JL.Tie` the theorem names shadow the model's (`apply`, `truthy`, `get`, `merge`, `cat`, `in_`): write `JL.apply`, `JL.truthy`. -/
namespace JL.Tie
open JL

/-- the node of the parse tree for an operation of table `kind`: eager and data operations carry the parse trees of their operands
(`parsed`; `none` when an operand is rejected), lazy operations carry their operands as written (`raw`) -/
def buildParsed (kind : Kind) (op : Rs.OpRef) (raw : List Json) (parsed : Option (List Rs.PParsed)) : Option Rs.PParsed :=
  match kind with
  | .eager => parsed.map (fun ps => .Operation (.mk op ps))
  | .lazy => some (.LazyOperation (.mk op raw))
  | .data => parsed.map (fun ps => .DataOperation (.mk op ps))

mutual
/-- The parse tree the crate builds for a rule, written from the model's `check` (structurally on the rule): an operation of the eager
or data table carries the parse trees of its operands, an operation of the lazy table carries its operands unparsed, anything else is
kept as it is. `none` = the rule is rejected (`Err`). -/
def parseSpec : Json → Option Rs.PParsed
  | .obj [(k, v)] =>
      match lookupOp k with
      | none => some (.Raw (.mk (.obj [(k, v)])))
      | some (kind, ar) =>
          match v with
          | .arr xs => if ar.isValidLen xs.length then buildParsed kind ⟨k, ar⟩ xs (parseListSpec xs) else none
          | x => if ar.canAcceptUnary && ar.isValidLen 1 then buildParsed kind ⟨k, ar⟩ [x] ((parseSpec x).map (fun p => [p])) else none
  | v => some (.Raw (.mk v))
termination_by structural v => v
/-- the parse trees of a list of operands, left to right: rejected as soon as one operand is -/
def parseListSpec : List Json → Option (List Rs.PParsed)
  | [] => some []
  | x :: xs => (parseSpec x).bind (fun p => (parseListSpec xs).bind (fun ps => some (p :: ps)))
termination_by structural xs => xs
end

/-! ### the tables -/
/-- what `Parsed::from_value` finds in the table of `kind'` under a key: the reference of the key's entry, if the key is of that kind
(no key stands in two tables: `lookupOp_of_mem`) -/
theorem opsOf_tableOf (kind' : Kind) (k : Str) :
    Rs.opsOf (tableOf kind') k =
      match lookupOp k with
      | some (kind, ar) => if kind = kind' then some ⟨k, ar⟩ else none
      | none => none := by
  unfold Rs.opsOf
  cases hf : findEntry k (tableOf kind') with
  | some e =>
    obtain ⟨he, rfl⟩ := findEntry_eq_some hf
    simp only [lookupOp_of_mem he, Option.map_some, if_true]
  | none =>
    cases hl : lookupOp k with
    | none => rfl
    | some p =>
      obtain ⟨kind, ar⟩ := p
      by_cases hk : kind = kind'
      · subst hk
        obtain ⟨e, he, rfl, -⟩ := lookupOp_eq_some hl
        exact absurd (List.mem_map_of_mem he) (findEntry_eq_none.1 hf)
      · simp only [Option.map_none, hk, if_false]

/-- `opsOf_tableOf` for the three tables at once, by cases on what the model's `lookupOp` says of the key -/
theorem ops_of_lookup (k : Str) :
    match lookupOp k with
    | none => Rs.eagerOps k = none ∧ Rs.lazyOps k = none ∧ Rs.dataOps k = none
    | some (.eager, ar) => Rs.eagerOps k = some ⟨k, ar⟩ ∧ Rs.lazyOps k = none ∧ Rs.dataOps k = none
    | some (.lazy, ar) => Rs.eagerOps k = none ∧ Rs.lazyOps k = some ⟨k, ar⟩ ∧ Rs.dataOps k = none
    | some (.data, ar) => Rs.eagerOps k = none ∧ Rs.lazyOps k = none ∧ Rs.dataOps k = some ⟨k, ar⟩ := by
  have e := opsOf_tableOf .eager k
  have l := opsOf_tableOf .lazy k
  have t := opsOf_tableOf .data k
  cases h : lookupOp k with
  | none => rw [h] at e l t; exact ⟨e, l, t⟩
  | some p =>
    obtain ⟨kind, ar⟩ := p
    rw [h] at e l t
    cases kind <;> exact ⟨e, l, t⟩

theorem assoc_mem {β : Type} {k : Str} {t : List (Str × β)} {f : β} (h : Rs.assoc k t = some f) : (k, f) ∈ t := by
  induction t with
  | nil => simp [Rs.assoc] at h
  | cons a t ih =>
    obtain ⟨k', v⟩ := a
    unfold Rs.assoc at h
    split at h
    · rename_i hk; cases h; simp [hk]
    · simp [ih h]

theorem tables_covered :
    (∀ k ∈ Tables.eager.map (·.key), (Rs.assoc k Gen.eagerTable).isSome || (Rs.assoc k Gen.eagerTableM).isSome)
    ∧ (∀ k ∈ Tables.lazy.map (·.key), (Rs.assoc k Gen.lazyTable).isSome)
    ∧ (∀ k ∈ Tables.data.map (·.key), (Rs.assoc k Gen.dataTable).isSome) := by
  decide +kernel

/-! ### the parse phase -/
/-- an operation whose operand is admitted by the arity (`Arity.admits`) is parsed over its operand list (`operands`) -/
theorem parseSpec_op (k : Str) (val : Json) (kind : Kind) (ar : Arity) (h : lookupOp k = some (kind, ar)) :
    parseSpec (.obj [(k, val)]) =
      if ar.admits val then buildParsed kind ⟨k, ar⟩ (operands val) (parseListSpec (operands val)) else none := by
  unfold parseSpec
  simp only [h]
  cases val
  case arr xs => rfl
  all_goals
    simp only [Arity.admits, operands, parseListSpec]
    split
    · cases parseSpec _ <;> rfl
    · rfl

theorem parseSpec_lit (k : Str) (val : Json) (h : lookupOp k = none) :
    parseSpec (.obj [(k, val)]) = some (.Raw (.mk (.obj [(k, val)]))) := by
  unfold parseSpec
  simp only [h]

theorem parseSpec_nonop (v : Json) (h : ∀ k val, v ≠ .obj [(k, val)]) : parseSpec v = some (.Raw (.mk v)) := by
  unfold parseSpec
  split
  · exact absurd rfl (h _ _)
  · rfl

theorem opFromMapSpec_nonop (lk : Str → Option Rs.OpRef) (v : Json) (h : ∀ k val, v ≠ .obj [(k, val)]) :
    opFromMapSpec Rs.OpRef.arity lk v = some none := by
  unfold opFromMapSpec
  split
  · exact absurd rfl (h _ _)
  · rfl

theorem opFromMapSpec_obj (lk : Str → Option Rs.OpRef) (k : Str) (val : Json) :
    opFromMapSpec Rs.OpRef.arity lk (.obj [(k, val)]) =
      match lk k with
      | none => some none
      | some op => if op.arity.admits val then some (some (op, operands val)) else none := by
  simp only [opFromMapSpec]
  cases lk k with
  | none => rfl
  | some op =>
    cases val
    case arr xs => rfl
    all_goals
      simp only [Arity.admits, operands]
      by_cases h1 : op.arity.canAcceptUnary = true <;> by_cases h2 : op.arity.isValidLen 1 = true <;> simp [h1, h2]

/-- the common shape of the three `from_value`s -/
def fromValueSpec {τ : Type} (lk : Str → Option Rs.OpRef) (mk : Rs.OpRef → List Json → Option τ) (v : Json) : Option (Option τ) :=
  (opFromMapSpec Rs.OpRef.arity lk v).bind (fun opt => Rs.transpose (opt.map (fun op => mk op.1 op.2)))

theorem fromValueSpec_obj {τ : Type} (lk : Str → Option Rs.OpRef) (mk : Rs.OpRef → List Json → Option τ) (k : Str) (val : Json) :
    fromValueSpec lk mk (.obj [(k, val)]) =
      match lk k with
      | none => some none
      | some op => if op.arity.admits val then (mk op (operands val)).map some else none := by
  simp only [fromValueSpec, opFromMapSpec_obj]
  cases lk k with
  | none => rfl
  | some op =>
    by_cases h : op.arity.admits val = true
    · simp only [h, if_true, Option.bind_some, Option.map_some, Rs.transpose]; cases mk op (operands val) <;> rfl
    · simp only [h]; rfl

theorem Operation_go_succ (f : Nat) (v : Json) :
    Gen.Operation_from_value.go (f + 1) v
      = fromValueSpec Rs.eagerOps (fun op xs => (Gen.Parsed_from_values.go f xs).map (Rs.POperation.mk op)) v := by
  unfold Gen.Operation_from_value.go
  rw [op_from_map]
  simp only [rs, fromValueSpec]
  congr 1; funext opt; congr 2; funext op
  cases Gen.Parsed_from_values.go f op.2 <;> rfl

theorem DataOperation_go_succ (f : Nat) (v : Json) :
    Gen.DataOperation_from_value.go (f + 1) v
      = fromValueSpec Rs.dataOps (fun op xs => (Gen.Parsed_from_values.go f xs).map (Rs.PData.mk op)) v := by
  unfold Gen.DataOperation_from_value.go
  rw [op_from_map]
  simp only [rs, fromValueSpec]
  congr 1; funext opt; congr 2; funext op
  cases Gen.Parsed_from_values.go f op.2 <;> rfl

theorem LazyOperation_fv (v : Json) :
    Gen.LazyOperation_from_value v = fromValueSpec Rs.lazyOps (fun op xs => some (Rs.PLazy.mk op xs)) v := by
  unfold Gen.LazyOperation_from_value
  rw [op_from_map]
  simp only [rs, fromValueSpec]
  rfl

theorem Parsed_values_go_succ (f : Nat) (xs : List Json) :
    Gen.Parsed_from_values.go (f + 1) xs = Rs.collectO (xs.map (Gen.Parsed_from_value.go f)) := by
  unfold Gen.Parsed_from_values.go
  simp only [rs]
  rfl

theorem Parsed_go_succ (f : Nat) (v : Json) :
    Gen.Parsed_from_value.go (f + 1) v =
      match Gen.Operation_from_value.go f v, Gen.LazyOperation_from_value v, Gen.DataOperation_from_value.go f v with
      | some q1, some q2, some q3 =>
          (((q1.map Rs.PParsed.Operation).or (q2.map Rs.PParsed.LazyOperation)).or (q3.map Rs.PParsed.DataOperation)).or (some (.Raw (.mk v)))
      | _, _, _ => none := by
  unfold Gen.Parsed_from_value.go
  cases Gen.Operation_from_value.go f v <;> cases Gen.LazyOperation_from_value v <;> cases Gen.DataOperation_from_value.go f v <;>
    simp [rs, Gen.Raw_from_value]
  rename_i a b c; cases a <;> cases b <;> cases c <;> rfl

theorem operands_depth (k : Str) {val x : Json} (hx : x ∈ operands val) : x.depth + 1 ≤ (Json.obj [(k, val)]).depth := by
  have hd : (Json.obj [(k, val)]).depth = val.depth + 1 := by simp [Json.depth, Json.depthKvs]
  rw [hd]
  cases val
  case arr xs =>
    have := depth_le_depthList (show x ∈ xs from hx)
    simp only [Json.depth]; omega
  all_goals cases List.mem_singleton.1 hx; omega

theorem collect_go (m : Nat) : ∀ (xs : List Json), (∀ x ∈ xs, Gen.Parsed_from_value.go m x = parseSpec x) →
    Rs.collectO (xs.map (Gen.Parsed_from_value.go m)) = parseListSpec xs
  | [], _ => by simp [Rs.collectO, parseListSpec]
  | x :: xs, h => by
    simp only [List.map_cons, Rs.collectO, parseListSpec]
    rw [h x (by simp), collect_go m xs (fun y hy => h y (by simp [hy]))]

theorem go_spec : ∀ (n : Nat) (v : Json), 3 * v.depth + 3 ≤ n → Gen.Parsed_from_value.go n v = parseSpec v := by
  intro n
  induction n using Nat.strongRecOn with
  | _ n ih =>
    intro v hn
    obtain ⟨f, rfl⟩ : ∃ f, n = f + 3 := ⟨n - 3, by omega⟩
    rw [Parsed_go_succ, Operation_go_succ, DataOperation_go_succ, LazyOperation_fv]
    by_cases hv : ∃ k val, v = .obj [(k, val)]
    · obtain ⟨k, val, rfl⟩ := hv
      have hops := ops_of_lookup k
      cases hl : lookupOp k with
      | none =>
        rw [hl] at hops; simp only at hops
        simp only [fromValueSpec_obj, hops.1, hops.2.1, hops.2.2]
        rw [parseSpec_lit _ _ hl]; rfl
      | some p =>
        obtain ⟨kind, ar⟩ := p
        rw [parseSpec_op k val kind ar hl]
        have hvals : Gen.Parsed_from_values.go (f + 1) (operands val) = parseListSpec (operands val) := by
          rw [Parsed_values_go_succ]
          apply collect_go
          intro x hx
          apply ih f (by omega)
          have := operands_depth k hx
          omega
        rw [hl] at hops
        cases kind <;> simp only at hops <;>
          simp only [fromValueSpec_obj, hops.1, hops.2.1, hops.2.2] <;>
          (by_cases ha : ar.admits val = true
           · simp only [ha, if_true, hvals, buildParsed]; cases parseListSpec (operands val) <;> rfl
           · simp only [ha]; rfl)
    · have hv' : ∀ k val, v ≠ .obj [(k, val)] := fun k val h => hv ⟨k, val, h⟩
      simp only [fromValueSpec, opFromMapSpec_nonop _ _ hv', parseSpec_nonop _ hv']
      rfl

/-- `Parsed::from_value` builds exactly that tree -/
theorem Parsed_from_value (v : Json) : Gen.Parsed_from_value v = parseSpec v := by
  unfold Gen.Parsed_from_value
  apply go_spec
  show 3 * v.depth + 3 ≤ 4 * v.depth + 4
  omega

theorem isSome_op (k : Str) (val : Json) (kind : Kind) (ar : Arity) (hl : lookupOp k = some (kind, ar))
    (H : (parseListSpec (operands val)).isSome = checkList (operands val)) :
    (parseSpec (.obj [(k, val)])).isSome = check (.obj [(k, val)]) := by
  rw [parseSpec_op k val kind ar hl, check_op hl]
  by_cases ha : ar.admits val = true
  · cases kind <;> simp [ha, buildParsed, H]
  · simp [ha]

theorem parseSpec_isSome_both : (∀ v, (parseSpec v).isSome = check v) ∧ (∀ xs, (parseListSpec xs).isSome = checkList xs) := by
  apply check.mutual_induct
  · intro k v hl
    rw [parseSpec_lit k v hl, check_unknown hl]; rfl
  · intro k kind ar hl keys ih
    exact isSome_op k _ kind ar hl ih
  · intro k v kind ar hl hv ih
    apply isSome_op k _ kind ar hl
    rw [operands_of_not_arr hv]
    simp only [parseListSpec, checkList, Bool.and_true]
    rw [← ih]
    cases parseSpec v <;> rfl
  · intro t ht
    rw [parseSpec_nonop t ht, check_literal ht]; rfl
  · rfl
  · intro x xs ih1 ih2
    simp only [parseListSpec, checkList]
    rw [← ih1, ← ih2]
    cases parseSpec x <;> cases parseListSpec xs <;> rfl

/-- the rule is accepted exactly when the model's `check` accepts it -/
theorem parseSpec_isSome (v : Json) : (parseSpec v).isSome = check v := parseSpec_isSome_both.1 v

/-! ### the evaluation phase -/
theorem eager_call_spec (k : Str) (ar : Arity) (hl : lookupOp k = some (.eager, ar)) (items : List Json)
    (hn : ar.isValidLen items.length = true) : Gen.eager_call ⟨k, ar⟩ items = execEager k items := by
  unfold Gen.eager_call
  have hc := tables_covered.1 k (by obtain ⟨e, he, rfl, -⟩ := lookupOp_eq_some hl; exact List.mem_map_of_mem he)
  cases h1 : Rs.assoc k Gen.eagerTable with
  | some f => exact eager_table k f (assoc_mem h1) ar hl items hn
  | none =>
    cases h2 : Rs.assoc k Gen.eagerTableM with
    | some f => exact eager_table_log k f (assoc_mem h2) ar hl items hn
    | none => simp [h1, h2] at hc

theorem lazy_call_spec (k : Str) (ar : Arity) (hl : lookupOp k = some (.lazy, ar)) (d : Json) (xs : List Json)
    (hn : ar.isValidLen xs.length = true) : Gen.lazy_call ⟨k, ar⟩ d xs = run (.obj [(k, .arr xs)]) d := by
  unfold Gen.lazy_call
  have hc := tables_covered.2.1 k (by obtain ⟨e, he, rfl, -⟩ := lookupOp_eq_some hl; exact List.mem_map_of_mem he)
  cases h1 : Rs.assoc k Gen.lazyTable with
  | some f => exact lazy_table k f (assoc_mem h1) ar hl d xs hn
  | none => simp [h1] at hc

theorem data_call_spec (k : Str) (ar : Arity) (hl : lookupOp k = some (.data, ar)) (d : Json) (items : List Json)
    (hn : ar.isValidLen items.length = true) : Gen.data_call ⟨k, ar⟩ d items = execData k d items := by
  unfold Gen.data_call
  have hc := tables_covered.2.2 k (by obtain ⟨e, he, rfl, -⟩ := lookupOp_eq_some hl; exact List.mem_map_of_mem he)
  cases h1 : Rs.assoc k Gen.dataTable with
  | some f => exact data_table k f (assoc_mem h1) ar hl d items hn
  | none => simp [h1] at hc

/-- two operator calls that agree on operand lists of an admitted length agree behind `runList` (which keeps the length) -/
theorem bind_call_congr {ar : Arity} {xs : List Json} (hlen : ar.isValidLen xs.length = true) (d : Json) {f g : List Json → M Json}
    (h : ∀ items, ar.isValidLen items.length = true → f items = g items) : (runList xs d >>= f) = (runList xs d >>= g) :=
  M.bind_congr fun items hi => h items (Lemmas.C01.runList_length xs d items hi ▸ hlen)

theorem pdepth_mem {p : Rs.PParsed} : ∀ {ps : List Rs.PParsed}, p ∈ ps → p.depth ≤ Rs.PParsed.depthList ps
  | [], h => by cases h
  | q :: qs, h => by
    rw [Rs.PParsed.depthList]
    rcases List.mem_cons.1 h with rfl | h
    · omega
    · have := pdepth_mem h; omega

theorem eval_go_raw (f : Nat) (v d : Json) : Gen.Parsed_evaluate.go (f + 1) (.Raw (.mk v)) d = pure v := by
  unfold Gen.Parsed_evaluate.go
  simp [Gen.Raw_evaluate, rs]

theorem eval_go_lazy (f : Nat) (op : Rs.OpRef) (xs : List Json) (d : Json) :
    Gen.Parsed_evaluate.go (f + 1) (.LazyOperation (.mk op xs)) d = Gen.lazy_call op d xs := by
  unfold Gen.Parsed_evaluate.go
  simp [Gen.LazyOperation_evaluate, Gen.LazyOperator_execute, rs]

theorem eval_go_eager (f : Nat) (op : Rs.OpRef) (ps : List Rs.PParsed) (d : Json) :
    Gen.Parsed_evaluate.go (f + 2) (.Operation (.mk op ps)) d
      = M.bind (Rs.collectM (ps.map (fun p => Gen.Parsed_evaluate.go f p d))) (fun items => Gen.eager_call op items) := by
  conv => lhs; unfold Gen.Parsed_evaluate.go
  simp only
  conv => lhs; unfold Gen.Operation_evaluate.go
  simp only [Gen.Operator_execute, rs]
  rfl

theorem eval_go_data (f : Nat) (op : Rs.OpRef) (ps : List Rs.PParsed) (d : Json) :
    Gen.Parsed_evaluate.go (f + 2) (.DataOperation (.mk op ps)) d
      = M.bind (Rs.collectM (ps.map (fun p => Gen.Parsed_evaluate.go f p d))) (fun items => Gen.data_call op d items) := by
  conv => lhs; unfold Gen.Parsed_evaluate.go
  simp only
  conv => lhs; unfold Gen.DataOperation_evaluate.go
  simp only [Gen.DataOperator_execute, rs]
  rfl

theorem collect_eval (m : Nat) (d : Json)
    (ih : ∀ v p, parseSpec v = some p → 2 * p.depth ≤ m → Gen.Parsed_evaluate.go m p d = run v d) :
    ∀ (xs : List Json) (ps : List Rs.PParsed), parseListSpec xs = some ps → 2 * Rs.PParsed.depthList ps ≤ m →
      Rs.collectM (ps.map (fun p => Gen.Parsed_evaluate.go m p d)) = runList xs d
  | [], ps, h, _ => by
    simp only [parseListSpec, Option.some.injEq] at h
    subst h
    simp [Rs.collectM, runList]
  | x :: xs, ps, h, hm => by
    simp only [parseListSpec] at h
    cases hx : parseSpec x with
    | none => simp [hx] at h
    | some p =>
      cases hxs : parseListSpec xs with
      | none => simp [hx, hxs] at h
      | some qs =>
        simp [hx, hxs] at h
        subst h
        rw [Rs.PParsed.depthList] at hm
        simp only [List.map_cons, Rs.collectM, runList]
        rw [ih x p hx (by omega), collect_eval m d ih xs qs hxs (by omega)]
        rfl

theorem eval_go_spec (d : Json) : ∀ (n : Nat) (v : Json) (p : Rs.PParsed), parseSpec v = some p → 2 * p.depth ≤ n →
    Gen.Parsed_evaluate.go n p d = run v d := by
  intro n
  induction n using Nat.strongRecOn with
  | _ n ih =>
    intro v p hp hn
    by_cases hv : ∃ k val, v = .obj [(k, val)]
    · obtain ⟨k, val, rfl⟩ := hv
      cases hl : lookupOp k with
      | none =>
        rw [parseSpec_lit k val hl] at hp
        cases hp
        obtain ⟨f, rfl⟩ : ∃ f, n = f + 1 := ⟨n - 1, by simp only [Rs.PParsed.depth] at hn; omega⟩
        rw [eval_go_raw, run_unknown hl]; rfl
      | some q =>
        obtain ⟨kind, ar⟩ := q
        rw [parseSpec_op k val kind ar hl] at hp
        cases ha : ar.admits val with
        | false => simp [ha] at hp
        | true =>
          have hlen := Arity.admits_length ha
          simp only [ha, if_true] at hp
          cases kind with
          | «lazy» =>
            simp only [buildParsed, Option.some.injEq] at hp
            subst hp
            obtain ⟨f, rfl⟩ : ∃ f, n = f + 1 := ⟨n - 1, by simp only [Rs.PParsed.depth] at hn; omega⟩
            rw [eval_go_lazy, lazy_call_spec k ar hl d _ hlen]
            exact Lemmas.C03.run_congr_operands (by simp [hl]) (operands_arr _) d
          | eager =>
            simp only [buildParsed] at hp
            cases hps : parseListSpec (operands val) with
            | none => simp [hps] at hp
            | some ps =>
              simp only [hps, Option.map_some, Option.some.injEq] at hp
              subst hp
              simp only [Rs.PParsed.depth, Rs.POperation.depth] at hn
              obtain ⟨f, rfl⟩ : ∃ f, n = f + 2 := ⟨n - 2, by omega⟩
              rw [eval_go_eager, collect_eval f d (ih f (by omega)) _ ps hps (by omega), run_eager hl val d]
              exact bind_call_congr hlen d (eager_call_spec k ar hl)
          | data =>
            simp only [buildParsed] at hp
            cases hps : parseListSpec (operands val) with
            | none => simp [hps] at hp
            | some ps =>
              simp only [hps, Option.map_some, Option.some.injEq] at hp
              subst hp
              simp only [Rs.PParsed.depth, Rs.PData.depth] at hn
              obtain ⟨f, rfl⟩ : ∃ f, n = f + 2 := ⟨n - 2, by omega⟩
              rw [eval_go_data, collect_eval f d (ih f (by omega)) _ ps hps (by omega), run_data hl val d]
              exact bind_call_congr hlen d (data_call_spec k ar hl d)
    · have hv' : ∀ k val, v ≠ .obj [(k, val)] := fun k val h => hv ⟨k, val, h⟩
      rw [parseSpec_nonop v hv'] at hp
      cases hp
      obtain ⟨f, rfl⟩ : ∃ f, n = f + 1 := ⟨n - 1, by simp only [Rs.PParsed.depth] at hn; omega⟩
      rw [eval_go_raw, run_literal hv']; rfl

/-- evaluating the tree of an accepted rule is the model's `run` on the rule -/
theorem Parsed_evaluate (v : Json) (p : Rs.PParsed) (h : parseSpec v = some p) (d : Json) : Gen.Parsed_evaluate p d = run v d := by
  unfold Gen.Parsed_evaluate
  apply eval_go_spec d _ v p h
  show 2 * p.depth ≤ 4 * (p.depth + Rs.fuelOf d) + 4
  omega

/-- the hypothesis of `Parsed_evaluate` is met by a real rule (a lazy operation over an eager one over a data one); a non-vacuity
example, evaluated at key literals on purpose (DESIGN §20.1) -/
example : ∃ p, parseSpec (.obj [("if".toList, .arr [.obj [("<".toList, .arr [.obj [("var".toList, .str "a".toList)], .num (.pos 2)])],
    .str "y".toList, .str "n".toList])]) = some p :=
  Option.isSome_iff_exists.1 (by decide +kernel)

/-- the crate's `apply`, as translated from the source function by function, is the model's `apply` -/
theorem apply (v d : Json) : Gen.apply v d = JL.apply v d := by
  unfold Gen.apply JL.apply
  rw [Parsed_from_value, ← parseSpec_isSome]
  cases h : parseSpec v with
  | none => simp [rs]
  | some p => simp [rs, Parsed_evaluate v p h]

end JL.Tie
