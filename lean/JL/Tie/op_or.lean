import JL.Generated.Fns
import JL.Tie.truthy_from_evaluated
import JL.Lemmas.TieD
import JL.Lemmas.C05
/-! The proof follows the body of the source in one respect: `orStep` below is the closure of the translated fold, re-typed by hand on
an unwrapped state, and it is matched against the generated closure by `first | rfl | (congr 1; funext s; …)`. A rewrite that
changes what one step does in what order needs `orStep` revisited; the induction (`TieD.orAnd_fold`) is about `orStep` and the model only. -/
namespace JL.Tie
open JL JL.Lemmas.TieD

/-- the translated enum `OrResult` as the model's fold state -/
def orSt : Gen.op_or.OrResult → OrState
  | .Uninitialized => .uninit
  | .Truthy v => .decided v
  | .Current v => .current v

/-- one step of the translated fold of `or`, on an unwrapped state -/
def orStep (d : Json) (s : Gen.op_or.OrResult) (x : Json) : M Gen.op_or.OrResult :=
  match s with
  | .Truthy _ => pure s
  | _ => (if check x then pure (⟨x⟩ : Rs.Parsed) else M.err) >>= fun p => run p.rule d >>= fun e =>
      if JL.truthy e then pure (.Truthy e) else pure (.Current e)

theorem or_fold (d : Json) (xs : List Json) (s : Gen.op_or.OrResult) :
    (foldBind (orStep d) xs s >>= fun r => (pure (orSt r) : M OrState)) = runOrAnd true xs (orSt s) d := by
  apply orAnd_fold
  · intro s v x h
    cases s <;> first | rfl | cases h
  · intro s x h
    cases s
    case Truthy v => exact absurd rfl (h v)
    all_goals
      simp only [orStep]
      by_cases hc : check x = true
      · simp only [hc, if_true, M.pure_bind, M.bind_assoc]
        congr 1; funext e
        cases JL.truthy e <;> simp [orSt]
      · simp [hc]

theorem op_or (d : Json) (xs : List Json) : Gen.op_or d xs = run (.obj [("or".toList, .arr xs)]) d := by
  rw [Lemmas.C05.run_oa_raw (.inl ⟨rfl, rfl⟩)]
  simp only []
  have h : (foldBind (orStep d) xs .Uninitialized >>= fun r => (pure (orSt r) : M OrState)) = runOrAnd true xs .uninit d :=
    or_fold d xs .Uninitialized
  rw [← h, M.bind_assoc]
  unfold Gen.op_or
  rw [foldM_bind' _ (orStep d)]
  · simp only [rs, bind_eq, M.pure_bind]
    congr 1; funext r
    cases r <;> simp [orSt, Lemmas.C05.readOut]
  · intro a x
    simp only [rs, truthy_from_evaluated]
    first
      | rfl
      | (congr 1; funext s; cases s <;> simp [orStep, bind_eq])

end JL.Tie
