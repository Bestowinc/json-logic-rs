import JL.Generated.Fns
import JL.Tie.truthy
namespace JL.Tie
open JL

theorem truthy_from_evaluated (v : Json) : Gen.truthy_from_evaluated v = JL.truthy v := by
  unfold Gen.truthy_from_evaluated
  exact truthy v

end JL.Tie
