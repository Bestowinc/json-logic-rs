import JL.Generated.Fns
import JL.Lemmas.TieAuto
import JL.Tie.to_number
namespace JL.Tie
open JL
set_option linter.unusedSimpArgs false

/- The four relational helpers may be written in terms of one another (`a > b` as `b < a`, …): their generated definitions are all
unfolded (none is recursive; `?`: those that exist) and the conversions they call are replaced by the model's through the callee
ties. The general call (second) then unfolds the model's conversions down to `toPrimitiveNumber` / `strToNumber` and splits on
those values wherever they occur. The short way (first; `TieAuto`, rule 6) leaves the model's `toPrimitive` folded - it is not in the
`simp only` list - and splits one level higher, on `toPrimitive` / `strToNumber`, which is enough for the code as it is written. -/
theorem abstract_lt (a b : Json) : Gen.abstract_lt a b = JsOp.abstractLt a b := by
  first
    | (simp only [Gen.abstract_lt, JsOp.abstractLt, JsOp.abstractGt, JsOp.abstractLte, JsOp.abstractGte, to_primitive, str_to_number, rs, tie]
       tie_cases JsOp.toPrimitive JsOp.strToNumber
       all_goals (tie_close; done))
    | tie_close [Gen.abstract_lt, ?Gen.abstract_gt, ?Gen.abstract_lte, ?Gen.abstract_gte,
          JsOp.abstractLt, JsOp.abstractGt, JsOp.abstractLte, JsOp.abstractGte, JsOp.toNumber, JsOp.toPrimitive,
          to_number, to_primitive, to_primitive_number, to_string, str_to_number]
        splitting JsOp.toPrimitiveNumber JsOp.strToNumber

end JL.Tie
