import JL.Eval
import JL.RsAttr
import JL.Spec.Utf8
/-!
# Meaning of the Rust standard-library and serde_json calls that occur in translated code

`tools/rs2lean.py` turns the bodies of the crate's functions into Lean terms (`JL/Generated/Fns.lean`). Every
library call in such a body becomes a call of the function of the same name below. This file is hand-written and is part
of the trusted base of the translation: each definition says what the Rust call computes, on the model's data types
(strings are lists of characters, vectors and iterators are lists, `Result<_, Error>` is `Option _`, and the model's outcome
monad `M _` in the functions that evaluate sub-rules or log).

Rust overloads (`==` on `f64` is IEEE, on strings is character-wise; `len()` counts bytes on `str` and elements on `Vec`)
are resolved by Lean's type classes, i.e. by the types the model gives to the operands.
-/
namespace JL
namespace Rs

/-- the enum `PrimitiveHint` of `src/js_op.rs` -/
inductive PrimitiveHint where
  | String | Number | Default
  deriving DecidableEq, Repr

/-! ## `==`, `<`, … -/
class REq (α : Type) where eq : α → α → Bool
class ROrd (α : Type) where
  lt : α → α → Bool
  le : α → α → Bool

instance : REq F64 := ⟨F64.eq⟩                          -- IEEE: NaN ≠ NaN, +0 = −0
instance : REq Bool := ⟨fun a b => a == b⟩
instance : REq Char := ⟨fun a b => a == b⟩
instance : REq Nat := ⟨fun a b => a == b⟩
instance : REq Int := ⟨fun a b => a == b⟩
instance : REq Str := ⟨fun a b => a == b⟩
instance : REq Json := ⟨Json.beq⟩                        -- serde_json `Value: PartialEq`
instance : REq Num := ⟨Num.beq⟩
instance {α : Type} [REq α] : REq (Option α) := ⟨fun a b => match a, b with
  | some x, some y => REq.eq x y
  | none, none => true
  | _, _ => false⟩

instance : ROrd F64 := ⟨F64.lt, F64.le⟩
instance : ROrd Str := ⟨strLt, strLe⟩                    -- byte-wise order of UTF-8 = code-point order (C09.utf8_order)
instance : ROrd Nat := ⟨fun a b => decide (a < b), fun a b => decide (a ≤ b)⟩
instance : ROrd Int := ⟨fun a b => decide (a < b), fun a b => decide (a ≤ b)⟩

@[rs] def eq {α : Type} [REq α] (a b : α) : Bool := REq.eq a b
@[rs] def lt {α : Type} [ROrd α] (a b : α) : Bool := ROrd.lt a b
@[rs] def le {α : Type} [ROrd α] (a b : α) : Bool := ROrd.le a b
@[rs] def gt {α : Type} [ROrd α] (a b : α) : Bool := ROrd.lt b a
@[rs] def ge {α : Type} [ROrd α] (a b : α) : Bool := ROrd.le b a

/-- on floats `Rs.gt` / `Rs.ge` (the swapped `<` / `<=`) are the model's `F64.gt` / `F64.ge` -/
theorem gt_f64 (a b : F64) : gt a b = F64.gt a b := by
  cases a <;> cases b <;> simp [gt, ROrd.lt, F64.gt, F64.lt]
theorem ge_f64 (a b : F64) : ge a b = F64.ge a b := by
  cases a <;> cases b <;> simp [ge, ROrd.le, F64.ge, F64.le]

/-! ## `Ordering` -/
class RCmp (α : Type) where partialCmp : α → α → Option Ordering
instance : RCmp F64 := ⟨fun a b => if F64.lt a b then some .lt else if F64.eq a b then some .eq else if F64.lt b a then some .gt else none⟩   -- `None` iff a NaN is involved
instance : RCmp Str := ⟨fun a b => some (if strLt a b then .lt else if a == b then .eq else .gt)⟩
instance : RCmp Nat := ⟨fun a b => some (Ord.compare a b)⟩
instance : RCmp Int := ⟨fun a b => some (Ord.compare a b)⟩
@[rs] def partial_cmp {α : Type} [RCmp α] (a b : α) : Option Ordering := RCmp.partialCmp a b
class RTotalCmp (α : Type) where cmp : α → α → Ordering
instance : RTotalCmp Str := ⟨fun a b => if strLt a b then .lt else if a == b then .eq else .gt⟩
instance : RTotalCmp Nat := ⟨fun a b => Ord.compare a b⟩
instance : RTotalCmp Int := ⟨fun a b => Ord.compare a b⟩
@[rs] def cmp_ {α : Type} [RTotalCmp α] (a b : α) : Ordering := RTotalCmp.cmp a b
@[rs] def is_lt (o : Ordering) : Bool := o == .lt
@[rs] def is_le (o : Ordering) : Bool := o != .gt
@[rs] def is_gt (o : Ordering) : Bool := o == .gt
@[rs] def is_ge (o : Ordering) : Bool := o != .lt
@[rs] def is_eq (o : Ordering) : Bool := o == .eq
@[rs] def is_ne (o : Ordering) : Bool := o != .eq
instance : REq Ordering := ⟨fun a b => a == b⟩

/-! ## arithmetic -/
class RArith (α : Type) where
  add : α → α → α
  sub : α → α → α
  mul : α → α → α
  div : α → α → α
  rem : α → α → α
  neg : α → α

instance : RArith F64 := ⟨F64.add, F64.sub, F64.mul, F64.div, F64.rem, F64.negate⟩
/-- machine integers are rendered as mathematical integers: overflow is not visible here (see the panic-site audit) -/
instance : RArith Int := ⟨(· + ·), (· - ·), (· * ·), Int.tdiv, Int.tmod, (- ·)⟩
instance : RArith Nat := ⟨(· + ·), (· - ·), (· * ·), (· / ·), (· % ·), id⟩

@[rs] def add {α : Type} [RArith α] (a b : α) : α := RArith.add a b
@[rs] def sub {α : Type} [RArith α] (a b : α) : α := RArith.sub a b
@[rs] def mul {α : Type} [RArith α] (a b : α) : α := RArith.mul a b
@[rs] def div {α : Type} [RArith α] (a b : α) : α := RArith.div a b
@[rs] def rem {α : Type} [RArith α] (a b : α) : α := RArith.rem a b
@[rs] def neg {α : Type} [RArith α] (a : α) : α := RArith.neg a

/-! ## casts -/
class RToF64 (α : Type) where toF64 : α → F64
instance : RToF64 Nat := ⟨F64.ofNat⟩
instance : RToF64 Int := ⟨F64.ofInt⟩
instance : RToF64 F64 := ⟨id⟩
@[rs] def to_f64 {α : Type} [RToF64 α] (a : α) : F64 := RToF64.toF64 a

/-- `x as i64` on a float: truncation towards zero, saturating, NaN ↦ 0 -/
class RToI64 (α : Type) where toI64 : α → Int
instance : RToI64 F64 := ⟨F64.toI64Sat⟩
instance : RToI64 Int := ⟨id⟩
instance : RToI64 Nat := ⟨fun n => (n : Int)⟩
@[rs] def to_i64 {α : Type} [RToI64 α] (a : α) : Int := RToI64.toI64 a
/-- `x as u64` on a float: truncation towards zero, saturating at 0 and 2^64 − 1, NaN ↦ 0 -/
def f64_to_u64 : F64 → Nat
  | .nan => 0
  | .inf n => if n then 0 else 2 ^ 64 - 1
  | .fin n k => if n then 0 else if k / F64.S > 2 ^ 64 - 1 then 2 ^ 64 - 1 else k / F64.S
class RToNat (α : Type) where toNat : α → Nat
instance : RToNat F64 := ⟨f64_to_u64⟩
instance : RToNat Nat := ⟨id⟩                       -- widenings between unsigned integer types
instance : RToNat Bool := ⟨fun b => if b then 1 else 0⟩
@[rs] def to_u64 {α : Type} [RToNat α] (a : α) : Nat := RToNat.toNat a
@[rs] def to_nat {α : Type} [RToNat α] (a : α) : Nat := RToNat.toNat a
/-- `x as i128` on a float -/
@[rs] def to_i128 : F64 → Int
  | .nan => 0
  | .inf n => if n then -(2 ^ 127 : Int) else 2 ^ 127 - 1
  | .fin n k =>
      let t : Int := (k / F64.S : Nat)
      let v := if n then -t else t
      if v < -(2 ^ 127 : Int) then -(2 ^ 127 : Int) else if v > 2 ^ 127 - 1 then 2 ^ 127 - 1 else v

class RToInt (α : Type) where toInt : α → Int
instance : RToInt Nat := ⟨fun n => (n : Int)⟩
instance : RToInt Int := ⟨id⟩
/-- `i128::from(x)` / `i64::from(x)` (lossless widenings) -/
@[rs] def to_int {α : Type} [RToInt α] (a : α) : Int := RToInt.toInt a

class RNumberFrom (α : Type) where numberFrom : α → Num
instance : RNumberFrom Int := ⟨Num.ofI64⟩                -- `Number::from(i64)`: PosInt when non-negative, else NegInt
instance : RNumberFrom Nat := ⟨Num.pos⟩                  -- `Number::from(u64)`
@[rs] def number_from {α : Type} [RNumberFrom α] (a : α) : Num := RNumberFrom.numberFrom a

/-! ## `f64` methods -/
/-- `f64::fract`: `x − trunc x` (keeps the sign; not a number for the infinities) -/
@[rs] def fract : F64 → F64
  | .fin n k => .fin n (k % F64.S)
  | _ => .nan
/-- `f64::abs` -/
@[rs] def abs (x : F64) : F64 := x.abs
@[rs] def is_nan (x : F64) : Bool := x.isNaN
@[rs] def is_finite (x : F64) : Bool := x.isFinite

/-! ## `Option` (and `Result`, whose error side is not modelled) -/
@[rs] def map {f : Type → Type} [Functor f] {α β : Type} (x : f α) (g : α → β) : f β := g <$> x
class RAndThen (f : Type → Type) where andThen : {α β : Type} → f α → (α → f β) → f β
instance : RAndThen Option := ⟨fun o g => o.bind g⟩
instance : RAndThen M := ⟨fun x g => M.bind x g⟩
@[rs] def and_then {f : Type → Type} [RAndThen f] {α β : Type} (o : f α) (g : α → f β) : f β := RAndThen.andThen o g
@[rs] def unwrap_or {α : Type} (o : Option α) (d : α) : α := o.getD d
@[rs] def map_or {α β : Type} (o : Option α) (d : β) (g : α → β) : β := match o with | some x => g x | none => d
@[rs] def filter {α : Type} (o : Option α) (p : α → Bool) : Option α := o.filter p
@[rs] def or_else {α : Type} (o : Option α) (g : Unit → Option α) : Option α := match o with | some x => some x | none => g ()
@[rs] def or_ {α : Type} (o p : Option α) : Option α := match o with | some x => some x | none => p
@[rs] def is_some {α : Type} (o : Option α) : Bool := o.isSome
@[rs] def is_none {α : Type} (o : Option α) : Bool := o.isNone
/-- `Option::unwrap`: the translation has no panics; where the Rust code would panic this yields the type's default value,
which makes the translated function differ from the model (whose outcome there is a panic), never agree with it by accident
in a tie theorem's favour: every use is preceded in the source by a check that the value is present. -/
@[rs] def unwrap {α : Type} [Inhabited α] (o : Option α) : α := o.getD default

/-! ## serde_json `Number` -/
@[rs] def as_f64 (n : Num) : Option F64 := some n.toF64        -- always `Some` without the `arbitrary_precision` feature
@[rs] def as_i64 (n : Num) : Option Int := n.asI64
@[rs] def as_u64 (n : Num) : Option Nat := n.asU64

/-! ## strings, vectors, iterators -/
@[rs] def utf8Len (c : Char) : Nat := if c.toNat < 0x80 then 1 else if c.toNat < 0x800 then 2 else if c.toNat < 0x10000 then 3 else 4

class RLen (α : Type) where len : α → Nat
instance (priority := low) {α : Type} : RLen (List α) := ⟨List.length⟩          -- `Vec::len`, `Map::len`
instance (priority := high) : RLen Str := ⟨fun s => (s.map utf8Len).sum⟩      -- `str::len`: bytes of the UTF-8 encoding
@[rs] def len {α : Type} [RLen α] (a : α) : Nat := RLen.len a
@[rs] def is_empty {α : Type} (l : List α) : Bool := l.isEmpty

class RGet (c : Type) (k : Type) (v : outParam Type) where get : c → k → Option v
instance {α : Type} : RGet (List α) Nat α := ⟨fun l i => l[i]?⟩                 -- `slice::get`
instance : RGet (List (Str × Json)) Str Json := ⟨fun m k => Json.lookup k m⟩    -- `Map::get`
@[rs] def get {c k v : Type} [RGet c k v] (a : c) (i : k) : Option v := RGet.get a i

@[rs] def fold {α β : Type} (l : List α) (init : β) (g : β → α → β) : β := l.foldl g init
@[rs] def all {α : Type} (l : List α) (p : α → Bool) : Bool := l.all p
@[rs] def any {α : Type} (l : List α) (p : α → Bool) : Bool := l.any p
class RZip (f : Type → Type) where zip : {α β : Type} → f α → f β → f (α × β)
instance : RZip List := ⟨fun a b => a.zip b⟩
instance : RZip Option := ⟨fun a b => match a, b with | some x, some y => some (x, y) | _, _ => none⟩
@[rs] def zip {f : Type → Type} [RZip f] {α β : Type} (a : f α) (b : f β) : f (α × β) := RZip.zip a b
@[rs] def chain {α : Type} (a b : List α) : List α := a ++ b
@[rs] def take {α : Type} (l : List α) (n : Nat) : List α := l.take n
@[rs] def skip {α : Type} (l : List α) (n : Nat) : List α := l.drop n
@[rs] def rev {α : Type} (l : List α) : List α := l.reverse
/-- `[String]::join(sep)` -/
@[rs] def join (l : List Str) (sep : Str) : Str := joinWith sep l
@[rs] def count {α : Type} (l : List α) : Nat := l.length

class RPat (π : Type) where stripPrefix : Str → π → Option Str
instance : RPat Char := ⟨fun s c => match s with | x :: rest => if x == c then some rest else none | [] => none⟩
instance : RPat Str := ⟨fun s p => if isPrefix p s then some (s.drop p.length) else none⟩
@[rs] def strip_prefix {π : Type} [RPat π] (s : Str) (p : π) : Option Str := RPat.stripPrefix s p
@[rs] def starts_with (s p : Str) : Bool := isPrefix p s
class RContains (c : Type) (e : outParam Type) where contains : c → e → Bool
instance (priority := high) : RContains Str Str := ⟨fun s p => isInfix p s⟩                 -- `str::contains(&str)`
instance (priority := low) : RContains (List Json) Json := ⟨fun l x => Json.contains l x⟩   -- `Vec<Value>::contains` (`Value: PartialEq`)
@[rs] def contains {c e : Type} [RContains c e] (a : c) (x : e) : Bool := RContains.contains a x
@[rs] def trim_start_matches (s : Str) (p : Char → Bool) : Str := s.dropWhile p
@[rs] def trim_end_matches (s : Str) (p : Char → Bool) : Str := (s.reverse.dropWhile p).reverse
@[rs] def trim_matches (s : Str) (p : Char → Bool) : Str := trim_end_matches (trim_start_matches s p) p
/-- `char::is_whitespace` (Unicode White_Space), for `str::trim*` -/
def isUnicodeWhitespace (c : Char) : Bool :=
  let n := c.toNat
  (9 ≤ n && n ≤ 13) || n == 0x20 || n == 0x85 || n == 0xA0 || n == 0x1680 || (0x2000 ≤ n && n ≤ 0x200A) || n == 0x2028 || n == 0x2029 || n == 0x202F || n == 0x205F || n == 0x3000
@[rs] def trim (s : Str) : Str := trim_matches s isUnicodeWhitespace
@[rs] def trim_start (s : Str) : Str := trim_start_matches s isUnicodeWhitespace
@[rs] def trim_end (s : Str) : Str := trim_end_matches s isUnicodeWhitespace

class RToString (α : Type) where toStr : α → Str
instance : RToString Bool := ⟨fun b => if b then "true".toList else "false".toList⟩
instance : RToString Num := ⟨Num.toStr⟩
instance : RToString Str := ⟨id⟩
@[rs] def to_string {α : Type} [RToString α] (a : α) : Str := RToString.toStr a

/-! ## loops and mutation
A `for` loop over a finite iterator is a fold over the list of its items, whose state is the tuple of the `let mut` variables the body
re-binds; the body says how the iteration ended (`continue`/fall-through, `break`, `return`). -/
inductive Flow (σ ρ : Type) where
  | next (s : σ) | brk (s : σ) | ret (r : ρ)
inductive LoopOut (σ ρ : Type) where
  | done (s : σ) | ret (r : ρ)
def for_ {α σ ρ : Type} : List α → σ → (σ → α → Flow σ ρ) → LoopOut σ ρ
  | [], s, _ => .done s
  | x :: xs, s, f =>
      match f s x with
      | .next s' => for_ xs s' f
      | .brk s' => .done s'
      | .ret r => .ret r
@[rs] def push {α : Type} (l : List α) (x : α) : List α := l ++ [x]          -- `Vec::push`, `String::push`
@[rs] def push_str (s t : Str) : Str := s ++ t
@[rs] def extend {α : Type} (l m : List α) : List α := l ++ m
@[rs] def clear {α : Type} (_ : List α) : List α := []
@[rs] def enumerate {α : Type} (l : List α) : List (Nat × α) := l.zipIdx.map (fun p => (p.2, p.1))
@[rs] def take_while {α : Type} (l : List α) (p : α → Bool) : List α := l.takeWhile p
@[rs] def skip_while {α : Type} (l : List α) (p : α → Bool) : List α := l.dropWhile p
@[rs] def last {α : Type} (l : List α) : Option α := l.getLast?
@[rs] def first {α : Type} (l : List α) : Option α := l.head?
class RBits (α : Type) where
  bor : α → α → α
  band : α → α → α
  bxor : α → α → α
instance : RBits Nat := ⟨(· ||| ·), (· &&& ·), (· ^^^ ·)⟩
instance : RBits Bool := ⟨(· || ·), (· && ·), (· != ·)⟩          -- `|`, `&`, `^` on `bool` (no short-circuit; operands are pure here)
@[rs] def bitor {α : Type} [RBits α] (a b : α) : α := RBits.bor a b
@[rs] def bitand {α : Type} [RBits α] (a b : α) : α := RBits.band a b
@[rs] def bitxor {α : Type} [RBits α] (a b : α) : α := RBits.bxor a b
@[rs] def shl (a b : Nat) : Nat := a <<< b
@[rs] def shr (a b : Nat) : Nat := a >>> b
class RAsciiDigit (α : Type) where isAsciiDigit : α → Bool
instance : RAsciiDigit Char := ⟨isDigit⟩
instance : RAsciiDigit Nat := ⟨fun b => 48 ≤ b && b ≤ 57⟩                      -- `u8::is_ascii_digit`
@[rs] def is_ascii_digit {α : Type} [RAsciiDigit α] (c : α) : Bool := RAsciiDigit.isAsciiDigit c
/-- `str::as_bytes` / `str::bytes`: the UTF-8 encoding (RFC 3629, `JL.Spec.Utf8`) -/
def as_bytes (s : Str) : List Nat := JL.Spec.Utf8.encode s
def bytes (s : Str) : List Nat := JL.Spec.Utf8.encode s
@[rs] def to_digit (c : Char) (radix : Nat) : Option Nat := JsOp.toDigit radix c

@[rs] def new_ {α : Type} (_ : Unit) : List α := []                            -- `Vec::new()`, `String::new()`
/-- `Iterator::next` on `chars()`: the first item and the rest -/
@[rs] def next {α : Type} (l : List α) : Option α × List α := match l with | [] => (none, []) | x :: xs => (some x, xs)
@[rs] def pop {α : Type} (l : List α) : Option α × List α := (l.getLast?, l.dropLast)
/-- `v[i]`: panics when out of range in Rust; here the type's default value (every use is behind an arity check) -/
@[rs] def index {α : Type} [Inhabited α] (l : List α) (i : Nat) : α := l[i]?.getD default
@[rs] def transpose {α : Type} (o : Option (Option α)) : Option (Option α) := match o with | none => some none | some none => none | some (some x) => some (some x)
@[rs] def parse (s : Str) : Option Int := Data.parseI64 s                        -- `str::parse::<i64>()` (the only instantiation in the crate)
@[rs] def checked_add (a b : Nat) : Option Nat := if a + b < 2 ^ 64 then some (a + b) else none
@[rs] def saturating_add (a b : Nat) : Nat := a + b                              -- no bound: machine integers are rendered as unbounded (see `RArith Int`)
@[rs] def saturating_sub (a b : Nat) : Nat := a - b                              -- truncated subtraction is what saturation at 0 means
/-- `std::mem::take(&mut x)` as a value: what was in `x` (the translator re-binds `x` to its default separately) -/
@[rs] def mem_take {α : Type} (a : α) : α := a
/-- what `std::mem::take` leaves behind in a `String` / `Vec` -/
@[rs] theorem default_list {α : Type} : (default : List α) = [] := rfl
@[rs] def unwrap_or_else {α : Type} (o : Option α) (g : Unit → α) : α := match o with | some x => x | none => g ()
@[rs] def flatten {α : Type} (o : Option (Option α)) : Option α := o.join
class RMinMax (α : Type) where
  min : α → α → α
  max : α → α → α
instance : RMinMax Nat := ⟨Nat.min, Nat.max⟩
instance : RMinMax Int := ⟨fun a b => if a ≤ b then a else b, fun a b => if a ≤ b then b else a⟩
@[rs] def min_ {α : Type} [RMinMax α] (a b : α) : α := RMinMax.min a b
@[rs] def max_ {α : Type} [RMinMax α] (a b : α) : α := RMinMax.max a b
instance : RToString Char := ⟨fun c => [c]⟩
instance : RToString Int := ⟨intToStr⟩
instance : RToString Nat := ⟨natToStr⟩
/-- `2f64.powi(n)`; other bases are not used by the crate and are not given a meaning -/
@[rs] def powi (b : F64) (n : Nat) : F64 := if b == F64.fin false (2 * F64.S) then JsOp.pow2 n else F64.nan

/-! ## evaluation of sub-rules (the outcome monad `M` of the model: log lines, then a value / an error / a panic) -/
/-- a successfully parsed sub-rule (`Parsed`): the rule text that `check` accepted -/
structure Parsed where
  rule : Json
/-- `Parsed::from_value(v)`: the parse phase of the model (`check`) -/
@[rs] def parsed_from_value (v : Json) : M Parsed := if check v then pure ⟨v⟩ else M.err
/-- `parsed.evaluate(data)`: the evaluation phase of the model (`run`) -/
@[rs] def evaluate (p : Parsed) (d : Json) : M Json := run p.rule d
@[rs] def ok {α : Type} (a : α) : M α := pure a
@[rs] def err {α : Type} : M α := M.err
@[rs] def ok_or {α : Type} (o : Option α) : M α := M.ofOption o
/-- `?` inside a function that returns `Result<_, Error>` and may log -/
class RTry (f : Type → Type) where try_ : {α β : Type} → f α → (α → M β) → M β
instance : RTry M := ⟨fun x k => M.bind x k⟩
instance : RTry Option := ⟨fun x k => match x with | some a => k a | none => M.err⟩     -- a `Result` of a function that cannot log
@[rs] def try_ {f : Type → Type} [RTry f] {α β : Type} (x : f α) (k : α → M β) : M β := RTry.try_ x k
/-- the outcome of a computation whose log lines are already out -/
def settled {α : Type} (x : M α) : M α := ⟨[], x.out⟩
/-- `iter.fold(init, f)` where the accumulator is a `Result` and `f` may log: strict left fold. Each step is handed the *settled*
outcome of the steps before it (what a Rust `Result` value is), and the log lines come out in the order the steps run. -/
def foldM {α β : Type} : List α → M β → (M β → α → M β) → M β
  | [], acc, _ => acc
  | x :: xs, acc, f => let r := foldM xs (f (settled acc) x) f; ⟨acc.logs ++ r.logs, r.out⟩
/-- the same fold when the closure also re-binds variables it captured (`σ`): they are threaded next to the outcome; an error outcome
does not undo what the closure did to them before it failed -/
def foldMS {α β σ : Type} : List α → M β → σ → (M β → σ → α → M β × σ) → M β × σ
  | [], acc, s, _ => (acc, s)
  | x :: xs, acc, s, f =>
      let step := f (settled acc) s x
      let r := foldMS xs step.1 step.2 f
      (⟨acc.logs ++ r.1.logs, r.1.out⟩, r.2)
/-- `?` inside such a closure: on failure the closure returns the error together with the variables as they are now -/
class RTryS (f : Type → Type) where tryS : {α β σ : Type} → f α → σ → (α → M β × σ) → M β × σ
instance : RTryS M := ⟨fun x s k =>
  match x.out with
  | .ok a => let r := k a; (⟨x.logs ++ r.1.logs, r.1.out⟩, r.2)
  | .err => (⟨x.logs, .err⟩, s)
  | .panic => (⟨x.logs, .panic⟩, s)⟩
instance : RTryS Option := ⟨fun x s k => match x with | some a => k a | none => (M.err, s)⟩
@[rs] def tryS {f : Type → Type} [RTryS f] {α β σ : Type} (x : f α) (s : σ) (k : α → M β × σ) : M β × σ := RTryS.tryS x s k
/-- `let x = e;` in a function that may log: when `e` is itself a `Result` computed by logging code, its log lines come out here,
and `x` is the settled outcome; for every other type this is a plain `let` -/
class RStrict (τ : Type) where strict : {β : Type} → τ → (τ → M β) → M β
instance (priority := low) {τ : Type} : RStrict τ := ⟨fun e k => k e⟩
instance {α : Type} : RStrict (M α) := ⟨fun e k => let r := k (settled e); ⟨e.logs ++ r.logs, r.out⟩⟩
@[rs] def strict {τ : Type} [RStrict τ] {β : Type} (e : τ) (k : τ → M β) : M β := RStrict.strict e k
/-- collecting an iterator of results into `Result<Vec<_>, _>`: stops at the first error -/
def collectM {α : Type} : List (M α) → M (List α)
  | [] => pure []
  | x :: xs => M.bind x (fun a => M.bind (collectM xs) (fun as => pure (a :: as)))
def collectO {α : Type} : List (Option α) → Option (List α)
  | [] => some []
  | x :: xs => x.bind (fun a => (collectO xs).bind (fun as => some (a :: as)))
class RCollect (f : Type → Type) where collect : {α : Type} → List (f α) → f (List α)
instance : RCollect M := ⟨collectM⟩
instance : RCollect Option := ⟨collectO⟩
@[rs] def collect_result {f : Type → Type} [RCollect f] {α : Type} (l : List (f α)) : f (List α) := RCollect.collect l
/-- `Map::insert` (a `BTreeMap`: keys stay sorted; an existing key is replaced) -/
def insert_ (m : List (Str × Json)) (k : Str) (v : Json) : List (Str × Json) :=
  match m with
  | [] => [(k, v)]
  | (k', v') :: rest => if k == k' then (k, v) :: rest else if strLt k k' then (k, v) :: (k', v') :: rest else (k', v') :: insert_ rest k v
class RTryInto (α : Type) (β : outParam Type) where tryInto : α → Option β
instance : RTryInto Nat Nat := ⟨fun n => some n⟩             -- `u64 → usize` cannot fail on the 64-bit targets the crate is built for
instance : RTryInto Json Data.Key := ⟨Data.keyOf⟩           -- `KeyType::try_from(&Value)`
@[rs] def try_into_i64 (n : Nat) : Option Int := if n < 2 ^ 63 then some (n : Int) else none

/-! ## the parse tree (`Parsed` of src/value.rs, `Operation` / `LazyOperation` / `DataOperation` of src/op/mod.rs)
An operator reference (`&'static Operator` …) is identified by the key of its table entry; what calling it means is given, per table,
by the functions `Gen.eager_call` / `Gen.lazy_call` / `Gen.data_call` next to the translated tables. -/
structure OpRef where
  key : Str
  arity : Arity
  deriving DecidableEq
inductive PLazy where
  | mk (operator : OpRef) (arguments : List Json)
inductive PRaw where
  | mk (value : Json)
mutual
inductive PParsed where
  | Operation (o : POperation)
  | LazyOperation (o : PLazy)
  | DataOperation (o : PData)
  | Raw (r : PRaw)
inductive POperation where
  | mk (operator : OpRef) (arguments : List PParsed)
inductive PData where
  | mk (operator : OpRef) (arguments : List PParsed)
end
instance : Inhabited PParsed := ⟨.Raw (.mk .null)⟩
mutual
def PParsed.depth : PParsed → Nat
  | .Operation o => o.depth + 1
  | .LazyOperation _ => 1
  | .DataOperation o => o.depth + 1
  | .Raw _ => 1
def POperation.depth : POperation → Nat
  | .mk _ args => PParsed.depthList args + 1
def PData.depth : PData → Nat
  | .mk _ args => PParsed.depthList args + 1
def PParsed.depthList : List PParsed → Nat
  | [] => 0
  | x :: xs => max x.depth (PParsed.depthList xs)
end
/-- how much fuel a mutually recursive group needs for an argument (a bound on how deep the recursion can go into it) -/
class RFuel (τ : Type) where fuelOf : τ → Nat
instance : RFuel Json := ⟨Json.depth⟩
instance : RFuel (List Json) := ⟨Json.depthList⟩
instance : RFuel PParsed := ⟨PParsed.depth⟩
instance : RFuel POperation := ⟨POperation.depth⟩
instance : RFuel PData := ⟨PData.depth⟩
def fuelOf {τ : Type} [RFuel τ] (x : τ) : Nat := RFuel.fuelOf x
class RHasOperator (τ : Type) where operator : τ → OpRef
instance : RHasOperator POperation := ⟨fun | .mk o _ => o⟩
instance : RHasOperator PData := ⟨fun | .mk o _ => o⟩
instance : RHasOperator PLazy := ⟨fun | .mk o _ => o⟩
class RHasArguments (τ : Type) (α : outParam Type) where arguments : τ → List α
instance : RHasArguments POperation PParsed := ⟨fun | .mk _ a => a⟩
instance : RHasArguments PData PParsed := ⟨fun | .mk _ a => a⟩
instance : RHasArguments PLazy Json := ⟨fun | .mk _ a => a⟩
@[rs] def operator {τ : Type} [RHasOperator τ] (x : τ) : OpRef := RHasOperator.operator x
@[rs] def arguments {τ α : Type} [RHasArguments τ α] (x : τ) : List α := RHasArguments.arguments x
@[rs] def value_ (r : PRaw) : Json := match r with | .mk v => v
/-- the three `phf_map!` tables as lookups from a key to the reference of its entry (keys and arities: `JL/Generated/Tables.lean`) -/
def opsOf (t : List Entry) (k : Str) : Option OpRef := (findEntry k t).map (fun e => ⟨e.key, e.arity⟩)
def eagerOps : Str → Option OpRef := opsOf Tables.eager
def lazyOps : Str → Option OpRef := opsOf Tables.lazy
def dataOps : Str → Option OpRef := opsOf Tables.data
/-- association-list lookup (the translated tables are lists of (key, function)) -/
def assoc {β : Type} (k : Str) : List (Str × β) → Option β
  | [] => none
  | (k', v) :: rest => if k' = k then some v else assoc k rest

/-! ## operator descriptors (`NumParams`, seen through `CommonOperator::param_info`) -/
@[rs] def param_info (o : OpRef) : Arity := o.arity
@[rs] def is_valid_len (a : Arity) (n : Nat) : Bool := a.isValidLen n            -- tied to the source by `JL.Props.ArityFns`
@[rs] def can_accept_unary (a : Arity) : Bool := a.canAcceptUnary
instance {β : Type} : RGet (Str → Option β) Str β := ⟨fun m k => m k⟩            -- `phf::Map::get`
/-- `Map::keys()` of a serde_json object (a `BTreeMap`): in key order -/
@[rs] def keys (m : List (Str × Json)) : List Str := m.map Prod.fst

/-! ## integers -/
@[rs] def unsigned_abs (i : Int) : Nat := i.natAbs
/-- `try_into()` / `try_from(..)`, in the two instantiations the crate has (the instances of `RTryInto` above) -/
@[rs] def try_into {α β : Type} [RTryInto α β] (a : α) : Option β := RTryInto.tryInto a
@[rs] def checked_sub (a b : Nat) : Option Nat := if b ≤ a then some (a - b) else none

/-! ## identity of references -/
/-- `std::ptr::eq(a, b)`: the operands reach the translated functions as distinct references (`JsOp.strictEq`) -/
@[rs] def ptr_eq {α : Type} (_ _ : α) : Bool := false
@[rs] def id_ {α : Type} (a : α) : α := a

/-! ## measures for the two functions that recurse on a *converted* operand -/
/-- `abstract_eq` recurses after turning a boolean into a number and a container into a string -/
def eqRank : Json → Nat
  | .bool _ => 2
  | .arr _ => 1
  | .obj _ => 1
  | _ => 0
/-- `parse_float` recurses once, on the string form -/
def strRank : Json → Nat
  | .str _ => 0
  | .num _ => 0
  | _ => 1

attribute [rs] REq.eq ROrd.lt ROrd.le RArith.add RArith.sub RArith.mul RArith.div RArith.rem RArith.neg RToF64.toF64 RToInt.toInt RNumberFrom.numberFrom RAsciiDigit.isAsciiDigit RCmp.partialCmp RTotalCmp.cmp RCollect.collect RHasOperator.operator RHasArguments.arguments RTryS.tryS RContains.contains RStrict.strict RZip.zip RBits.bor RBits.band RBits.bxor RTry.try_ RTryInto.tryInto RAndThen.andThen RToNat.toNat RToI64.toI64 RMinMax.min RMinMax.max f64_to_u64 RLen.len RGet.get RPat.stripPrefix RToString.toStr

end Rs
end JL
