import JL.Lemmas.StrNum
/-!
# C10 — the parseFloat-style conversion used by `+` and `*` is ECMA-262 `parseFloat`

`JL.Spec.ES.parseFloat` (JL/Spec/ESNum.lean) is written from ECMA-262 19.2.4 and the StrDecimalLiteral
grammar; `JsOp.parseFloatString` / `JsOp.parseFloat` model `js_op::parse_float_string` / `parse_float`.
-/
namespace JL.Props.C10
open JL Json JL.Spec

/-- `parse_float_string` is `parseFloat` of ECMA-262 on every string: leading StrWhiteSpace skipped,
optional sign, `Infinity` prefix or the longest StrDecimalLiteral prefix, correctly rounded; NaN (`none`)
when there is no such prefix. No bound on the length of the string. -/
theorem parse_float_string_es (s : Str) : JsOp.parseFloatString s = ES.parseFloat s :=
  JL.Lemmas.StrNum.parseFloatString_eq s

/-- `parse_float` on JSON values: a number is its own double, a string goes through `parseFloat`,
every other value through `parseFloat` of its string form (`js_op::to_string`). -/
theorem parse_float_es (v : Json) :
    JsOp.parseFloat v =
      match v with
      | .num n => some n.toF64
      | .str s => ES.parseFloat s
      | v => ES.parseFloat (JsOp.toString v) := by
  cases v <;> simp only [JsOp.parseFloat, parse_float_string_es]

/-- numeric prefixes: "12px" is 12, "1-2" is 1, "1e" is 1, ".5" is 0.5, "5." is 5; "." and "px" are not numeric -/
example : JsOp.parseFloatString "12px".toList = some (F64.ofNat 12) := by decide +kernel
example : ES.parseFloat "12px".toList = some (F64.ofNat 12) := by decide +kernel
example : ES.parseFloat "1-2".toList = some (F64.ofNat 1) := by decide +kernel
example : JsOp.parseFloatString "1-2".toList = some (F64.ofNat 1) := by decide +kernel
example : ES.parseFloat "1e".toList = some (F64.ofNat 1) := by decide +kernel
example : ES.parseFloat "5e-".toList = some (F64.ofNat 5) := by decide +kernel
example : ES.parseFloat ".5".toList = some (F64.ofDecimal false 5 (-1)) := by decide +kernel
example : ES.parseFloat "5.".toList = some (F64.ofNat 5) := by decide +kernel
example : ES.parseFloat ".".toList = none := by decide +kernel
example : ES.parseFloat "px".toList = none := by decide +kernel
example : ES.parseFloat "  -Infinityx".toList = some (F64.inf true) := by decide +kernel
example : ES.parseFloat "inf".toList = none := by decide +kernel
/-- `[3]` is 3 (through its string form "3"), `null` / `true` are not numeric for `+` and `*` -/
example : JsOp.parseFloat (.arr [.num (.pos 3)]) = some (F64.ofNat 3) := by decide +kernel
example : JsOp.parseFloat .null = none := by decide +kernel
example : JsOp.parseFloat (.bool true) = none := by decide +kernel

end JL.Props.C10
