import JL.Lemmas.C06
import JL.Lemmas.C05
import JL.Lemmas.C13
import JL.Lemmas.C14
/-!
# C06 — one JsonLogic truthiness table governs every boolean decision
-/
namespace JL.Props.C06
open JL Json JL.Lemmas.C06 JL.Lemmas.C05 JL.Lemmas.C14

/-- the JsonLogic truthiness table, written from the property: false, null, zero (any spelling, incl. -0),
the empty string and the empty array are falsy; everything else is truthy -/
def jlFalsy : Json → Prop
  | .bool b => b = false
  | .null => True
  | .num n => F64.eq n.toF64 F64.zero = true
  | .str s => s = []
  | .arr xs => xs = []
  | .obj _ => False

/-- the code's `truthy` is the table -/
theorem truthy_table (v : Json) : truthy v = false ↔ jlFalsy v := by
  cases v <;> simp [truthy, jlFalsy]

/-- every object, even `{}`, is truthy; so are non-empty strings and arrays whatever they contain -/
theorem obj_truthy (kvs : List (Str × Json)) : truthy (.obj kvs) = true := rfl
theorem nonempty_str_truthy (c : Char) (s : Str) : truthy (.str (c :: s)) = true := rfl
theorem nonempty_arr_truthy (x : Json) (xs : List Json) : truthy (.arr (x :: xs)) = true := rfl

/-- `!!` returns the boolean of the table and `!` its exact negation (operator level, evaluated operand) -/
theorem bangbang (v : Json) : execEager "!!".toList [v] = ⟨[], .ok (.bool (truthy v))⟩ := by
  unfold execEager; simp only [String.toList_inj, String.reduceEq, ↓reduceIte]; rfl
theorem bang (v : Json) : execEager "!".toList [v] = ⟨[], .ok (.bool (!truthy v))⟩ := execEager_not v []

/-- zero in every spelling is falsy -/
example : truthy (.num (.pos 0)) = false ∧ truthy (.num (.flt (F64.fin true 0))) = false ∧ truthy (.num (.flt (F64.fin false 0))) = false := by decide +kernel
example : truthy (.str "0".toList) = true ∧ truthy (.arr [.num (.pos 0)]) = true ∧ truthy (.arr [.arr []]) = true ∧ truthy (.obj []) = true := by decide

/-! ## numbers: falsy exactly when the double is ±0 -/

/-- **Falsy numbers.** A (well-formed) number is falsy iff it is `0` (`PosInt(0)`), `0.0` or `-0.0` — for every
`u64`, every negative `i64` and every finite double, no size bound: converting a non-zero integer to a double never
gives zero, however large it is. -/
theorem truthy_num (n : Num) (h : Num.WF n) :
    truthy (.num n) = false ↔ n = .pos 0 ∨ ∃ b, n = .flt (F64.fin b 0) := by
  simp only [truthy, Bool.not_eq_false', toF64_eq_zero]
  constructor
  · rintro (h1 | h1 | h1)
    · exact Or.inl h1
    · subst h1; simp [Num.WF] at h
    · exact Or.inr h1
  · rintro (h1 | h1)
    · exact Or.inl h1
    · exact Or.inr (Or.inr h1)

/-- in terms of the double: falsy iff `as_f64() == 0.0` (true of `+0.0` and `-0.0` only) -/
theorem truthy_num_f64 (n : Num) : truthy (.num n) = !(F64.eq n.toF64 F64.zero) := rfl
theorem f64_eq_zero_iff (x : F64) : F64.eq x F64.zero = true ↔ ∃ b, x = F64.fin b 0 := eq_zero_iff x

example : Num.WF (.pos (2^64 - 1)) ∧ Num.WF (.neg (2^63)) ∧ Num.WF (.flt (F64.fin true 1)) := by decide +kernel
example : truthy (.num (.pos (2^64 - 1))) = true ∧ truthy (.num (.neg 1)) = true ∧ truthy (.num (.flt (F64.fin true 1))) = true := by
  decide +kernel

/-! ## `if` / `?:` conditions -/

/-- `{"if": [c, t, e]}` is `t` if `truthy ⟦c⟧` else `e` — the unselected branch is neither parsed nor evaluated -/
theorem if_then_else (c t e d : Json) :
    run (.obj [("if".toList, .arr [c, t, e])]) d =
      if check c then
        (do let cv ← run c d
            if truthy cv then (if check t then run t d else M.err) else (if check e then run e d else M.err))
      else M.err := by
  rw [run_if_arr (.inl rfl)]; exact apply_bind c d _

/-- the same for the alias `?:` -/
theorem ternary_then_else (c t e d : Json) :
    run (.obj [("?:".toList, .arr [c, t, e])]) d =
      if check c then
        (do let cv ← run c d
            if truthy cv then (if check t then run t d else M.err) else (if check e then run e d else M.err))
      else M.err := by
  rw [run_if_arr (.inr rfl)]; exact apply_bind c d _

/-! ## `and` / `or` -/

/-- `{"or": [a, b]}`: `a`'s value if it is truthy (and `b` is not even parsed), else `b`'s -/
theorem or_two (a b d : Json) :
    run (.obj [("or".toList, .arr [a, b])]) d =
      if check a then
        (do let av ← run a d
            if truthy av then pure av else (if check b then run b d else M.err))
      else M.err := by
  rw [run_or_arr rfl]; exact apply_bind a d _

/-- `{"and": [a, b]}`: `a`'s value if it is falsy (and `b` is not even parsed), else `b`'s -/
theorem and_two (a b d : Json) :
    run (.obj [("and".toList, .arr [a, b])]) d =
      if check a then
        (do let av ← run a d
            if truthy av then (if check b then run b d else M.err) else pure av)
      else M.err := by
  rw [run_and_arr rfl]; exact apply_bind a d _

/-! ## `filter` -/

/-- operator level: `{"filter": [c, e]}` with `c` evaluating to an array -/
theorem filter_op (c e d : Json) (l : List Json) (items : List Json) (g : Json → Json)
    (hc : check c = true) (hcv : run c d = ⟨l, .ok (.arr items)⟩) (he : check e = true)
    (h : ∀ x ∈ items, (run e x).out = .ok (g x)) :
    (run (.obj [("filter".toList, .arr [c, e])]) d).out = .ok (.arr (items.filter (fun x => truthy (g x)))) := by
  rw [JL.Lemmas.C13.run_filter rfl]
  simp only [operands_arr, JL.Lemmas.C13.ev_eq_apply, apply_of_check hc, hcv, M.bind_ok, JL.Lemmas.C13.collOf, M.ofOption_some, JL.Lemmas.C13.parsed, he, if_true]
  rw [M.pure_bind, filterData_of_ok _ g items h]
  rfl

/-! ## `all` / `some` / `none` -/

/-- the fold of `all` over data items: true iff the predicate's value is truthy on every item -/
theorem all_data (p : Json → M Json) (g : Json → Json) (xs : List Json)
    (h : ∀ x ∈ xs, (p x).out = .ok (g x)) :
    (quantData true p xs true).out = .ok (xs.all (fun x => truthy (g x))) := by
  rw [quantData_spec]; exact quantSpec_out_of_ok true xs h

/-- the fold of `some` over data items: true iff the predicate's value is truthy on at least one item -/
theorem some_data (p : Json → M Json) (g : Json → Json) (xs : List Json)
    (h : ∀ x ∈ xs, (p x).out = .ok (g x)) :
    (quantData false p xs false).out = .ok (xs.any (fun x => truthy (g x))) := by
  rw [quantData_spec]; exact quantSpec_out_of_ok false xs h

/-- the fold of `all` over the element expressions of a literal array -/
theorem all_lit (p : Json → M Json) (v g : Json → Json) (is : List Json) (d : Json)
    (hv : ∀ i ∈ is, check i = true ∧ (run i d).out = .ok (v i))
    (hp : ∀ i ∈ is, (p (v i)).out = .ok (g i)) :
    (runQuantLit true is p d true).out = .ok (is.all (fun i => truthy (g i))) := by
  rw [runQuantLit_spec]
  refine quantSpec_out_of_ok true is fun i hi => ?_
  rw [Props.C14.evElem, if_pos (hv i hi).1, M.bind_out_of_ok (hv i hi).2]; exact hp i hi

theorem some_lit (p : Json → M Json) (v g : Json → Json) (is : List Json) (d : Json)
    (hv : ∀ i ∈ is, check i = true ∧ (run i d).out = .ok (v i))
    (hp : ∀ i ∈ is, (p (v i)).out = .ok (g i)) :
    (runQuantLit false is p d false).out = .ok (is.any (fun i => truthy (g i))) := by
  rw [runQuantLit_spec]
  refine quantSpec_out_of_ok false is fun i hi => ?_
  rw [Props.C14.evElem, if_pos (hv i hi).1, M.bind_out_of_ok (hv i hi).2]; exact hp i hi

theorem all_op_lit (xs : List Json) (p d : Json) :
    run (.obj [("all".toList, .arr [.arr xs, p])]) d =
      if xs.isEmpty then pure (.bool false)
      else if !check p then M.err
      else (do let b ← runQuantLit true xs (fun x => run p x) d true; pure (.bool b)) := by
  exact run_all rfl _ d

theorem some_op_lit (xs : List Json) (p d : Json) :
    run (.obj [("some".toList, .arr [.arr xs, p])]) d =
      if xs.isEmpty then pure (.bool false)
      else if !check p then M.err
      else (do let b ← runQuantLit false xs (fun x => run p x) d false; pure (.bool b)) := by
  exact run_some rfl _ d

theorem none_op_lit (xs : List Json) (p d : Json) :
    run (.obj [("none".toList, .arr [.arr xs, p])]) d =
      if xs.isEmpty then pure (.bool true)
      else if !check p then M.err
      else (do let b ← runQuantLit false xs (fun x => run p x) d false; pure (.bool (!b))) := by
  rw [run_none rfl, operands_arr]
  show (if xs.isEmpty then _ else if !check p then _ else _) >>= Props.C14.negate = _
  split
  · rfl
  · split
    · rfl
    · rw [M.bind_assoc]; rfl

/-- a computed collection (an object = an operation or a literal object): it is evaluated, then `quantValue` -/
theorem all_op_obj (kvs : List (Str × Json)) (p d : Json) :
    run (.obj [("all".toList, .arr [.obj kvs, p])]) d =
      if !check (.obj kvs) then M.err
      else (do let cv ← run (.obj kvs) d; quantValue true cv (check p) (fun x => run p x)) := by
  exact run_all rfl _ d

theorem some_op_obj (kvs : List (Str × Json)) (p d : Json) :
    run (.obj [("some".toList, .arr [.obj kvs, p])]) d =
      if !check (.obj kvs) then M.err
      else (do let cv ← run (.obj kvs) d; quantValue false cv (check p) (fun x => run p x)) := by
  exact run_some rfl _ d

/-- `all`/`some` on a non-empty computed array: the data fold, i.e. `List.all`/`List.any` of `truthy ∘ predicate` -/
theorem quantValue_all (p : Json → M Json) (g : Json → Json) (x : Json) (xs : List Json)
    (h : ∀ y ∈ x :: xs, (p y).out = .ok (g y)) :
    (quantValue true (.arr (x :: xs)) true p).out = .ok (.bool ((x :: xs).all (fun y => truthy (g y)))) := by
  simp only [quantValue, quantItems, List.isEmpty_cons, Bool.false_eq_true, if_false, Bool.not_true]
  rw [M.bind_out_of_ok (all_data p g (x :: xs) h)]
  rfl

theorem quantValue_some (p : Json → M Json) (g : Json → Json) (x : Json) (xs : List Json)
    (h : ∀ y ∈ x :: xs, (p y).out = .ok (g y)) :
    (quantValue false (.arr (x :: xs)) true p).out = .ok (.bool ((x :: xs).any (fun y => truthy (g y)))) := by
  simp only [quantValue, quantItems, List.isEmpty_cons, Bool.false_eq_true, if_false, Bool.not_true]
  rw [M.bind_out_of_ok (some_data p g (x :: xs) h)]
  rfl

/-! ## the corner values at every deciding position (closed evaluations of the model: `[]`, `""`, `0`, `-0.0`, `null`
are falsy and `"0"`, `[0]`, `[[]]`, `{}` are truthy in *each* of them) -/
section corners
/-- `{"var": ""}`: the current data item -/
private def it : Json := .obj [("var".toList, .str [])]
private def s (x : String) : Json := .str x.toList
private def negZero : Json := .num (.flt (F64.fin true 0))
private def zero : Json := .num (.pos 0)
private def falsies : List Json := [.null, .bool false, zero, negZero, s "", .arr []]
private def truthies : List Json := [s "0", .arr [zero], .arr [.arr []], .obj [], .bool true, s " "]

example : falsies.all (fun v => truthy v == false) = true ∧ truthies.all truthy = true := by decide +kernel
/-- `if` / `?:` -/
example : (falsies.all fun v => apply (.obj [("if".toList, .arr [v, s "t", s "e"])]) .null == ⟨[], .ok (s "e")⟩) = true := by decide +kernel
example : (truthies.all fun v => apply (.obj [("if".toList, .arr [v, s "t", s "e"])]) .null == ⟨[], .ok (s "t")⟩) = true := by decide +kernel
example : (falsies.all fun v => apply (.obj [("?:".toList, .arr [v, s "t", s "e"])]) .null == ⟨[], .ok (s "e")⟩) = true := by decide +kernel
/-- `or` / `and` -/
example : (falsies.all fun v => apply (.obj [("or".toList, .arr [v, s "x"])]) .null == ⟨[], .ok (s "x")⟩) = true := by decide +kernel
example : (truthies.all fun v => apply (.obj [("or".toList, .arr [v, s "x"])]) .null == ⟨[], .ok v⟩) = true := by decide +kernel
example : (falsies.all fun v => apply (.obj [("and".toList, .arr [v, s "x"])]) .null == ⟨[], .ok v⟩) = true := by decide +kernel
example : (truthies.all fun v => apply (.obj [("and".toList, .arr [v, s "x"])]) .null == ⟨[], .ok (s "x")⟩) = true := by decide +kernel
/-- `filter` keeps exactly the truthy ones -/
example : apply (.obj [("filter".toList, .arr [.arr (falsies ++ truthies), it])]) .null = ⟨[], .ok (.arr truthies)⟩ := by decide +kernel
/-- `all` / `some` / `none` -/
example : apply (.obj [("all".toList, .arr [.arr truthies, it])]) .null = ⟨[], .ok (.bool true)⟩ := by decide +kernel
example : (falsies.all fun v => apply (.obj [("all".toList, .arr [.arr (v :: truthies), it])]) .null == ⟨[], .ok (.bool false)⟩) = true := by decide +kernel
example : apply (.obj [("some".toList, .arr [.arr falsies, it])]) .null = ⟨[], .ok (.bool false)⟩ := by decide +kernel
example : (truthies.all fun v => apply (.obj [("some".toList, .arr [.arr (falsies ++ [v]), it])]) .null == ⟨[], .ok (.bool true)⟩) = true := by decide +kernel
example : apply (.obj [("none".toList, .arr [.arr falsies, it])]) .null = ⟨[], .ok (.bool true)⟩ := by decide +kernel
/-- `!!` / `!` -/
example : (falsies.all fun v => apply (.obj [("!!".toList, .arr [v])]) .null == ⟨[], .ok (.bool false)⟩) = true := by decide +kernel
example : (truthies.all fun v => apply (.obj [("!".toList, .arr [v])]) .null == ⟨[], .ok (.bool false)⟩) = true := by decide +kernel
end corners

end JL.Props.C06
