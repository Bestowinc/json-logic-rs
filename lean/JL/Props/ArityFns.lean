import JL.Generated.ArityFns
/-!
# Tie theorems: the MEANING of the arity descriptors in the source is the meaning the model gives them

`JL/Generated/ArityFns.lean` is the arm-by-arm translation of `NumParams::is_valid_len` and `NumParams::can_accept_unary` as they
stand in `/repo/src/op/mod.rs` now. If the translator still parses them, they are — for every descriptor and every operand
count — the model's `Arity.isValidLen` / `Arity.canAcceptUnary`, on which `C03.arity_doc` and `C01.index_safe` rest.
-/
namespace JL.Props.ArityFns
open JL

theorem is_valid_len_tie (f : Arity → Nat → Bool) (h : ArityFns.isValidLenSrc = some f) (a : Arity) (n : Nat) :
    f a n = a.isValidLen n := by
  cases h
  rw [Bool.eq_iff_iff]
  -- the bodies are regenerated: plain `simp`, so that an arm respelled with `||`, `!` or `==` still goes through
  cases a <;> simp [Arity.isValidLen] <;> omega

theorem can_accept_unary_tie (f : Arity → Bool) (h : ArityFns.canAcceptUnarySrc = some f) (a : Arity) :
    f a = a.canAcceptUnary := by
  cases h
  rw [Bool.eq_iff_iff]
  cases a <;> simp [Arity.canAcceptUnary] <;> omega

end JL.Props.ArityFns
