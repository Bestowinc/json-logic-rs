import JL.Lemmas.RoundTrip
/-!
# C10 — `[x]` converts like `x`: the text of a number reads back as the same double

An array (and any non-primitive) reaches `to_number` / `parse_float` through its `js_op::to_string` form; for the
one-element array `[x]` of a number that is the number's JSON text (`Display for Number`: `u64`/`i64` decimal text,
or the shortest-round-trip text of the `f64`). The theorems below show that this text converts back to exactly
`x.as_f64()`, for every number `serde_json` can hold — no size bound, no hypothesis besides well-formedness
(`u64` / negative `i64` / finite `f64` on the binary64 grid).

Proof outline for floats (helper modules `JL/Lemmas/RoundTrip*.lean`):
`shortest k` only returns digits `(c, p)` that pass its `inside` test, i.e. `c · 10^p` lies in the rounding interval
`interval k`, and seventeen digits always pass (`shortest_spec`); every rational in that interval rounds (nearest, ties
to even; the boundary is included exactly when the mantissa is even; the gap below a power of two is half as wide) to
`k` (`roundK_inside`); stripping trailing zeros and the fixed / exponent layouts of `format` spell the same decimal with
the point moved (`layout_lit`, `decIn_shift`); `str_to_number` / `parse_float_string` read the text of a decimal literal as
`ofDecimal` of its value (`readsAs_lit`).
-/
namespace JL.Props.C10
open JL Json JL.F64 JL.Lemmas.RoundTrip

/-! ## integers -/

/-- the decimal text of any natural number converts (JS `Number(text)`) to the nearest double -/
theorem nat_text_to_number (n : Nat) : JsOp.strToNumber (natToStr n) = some (F64.ofNat n) :=
  (readsAs_nat n).1

/-- the text `-m` of a negative integer converts to the nearest double of `-m` -/
theorem neg_text_to_number (m : Nat) (hm : 1 ≤ m) :
    JsOp.strToNumber ('-' :: natToStr m) = some (F64.ofInt (-(m : Int))) :=
  (readsAs_negNat m hm).1

/-- the same through `parseFloat` (used by `+` and `*`) -/
theorem nat_text_parse_float (n : Nat) : JsOp.parseFloatString (natToStr n) = some (F64.ofNat n) :=
  (readsAs_nat n).2

theorem neg_text_parse_float (m : Nat) (hm : 1 ≤ m) :
    JsOp.parseFloatString ('-' :: natToStr m) = some (F64.ofInt (-(m : Int))) :=
  (readsAs_negNat m hm).2

/-- `[n]` is `n` for every `u64` (in fact for every natural number) -/
theorem array_of_posint_to_number (n : Nat) : JsOp.toNumber (.arr [.num (.pos n)]) = some (F64.ofNat n) := by
  show JsOp.strToNumber (JsOp.toString (.arr [.num (.pos n)])) = _
  rw [toString_singleton_num]; exact nat_text_to_number n

/-! ## floats -/

/-- the exact decimal `c · 10^p` lies in the rounding interval of the double `k · 2^-1074` -/
abbrev DecimalInInterval (k c : Nat) (p : Int) : Prop := DecIn k c p

/-- every decimal inside the rounding interval of a non-zero double converts to that double (`hd` is not needed: `0` is
never inside the interval of a `k ≠ 0`) -/
theorem of_decimal_inside (neg : Bool) (k d : Nat) (e : Int) (hk0 : k ≠ 0) (hk : OnGrid k) (hd : d ≠ 0)
    (h : DecimalInInterval k d e) : ofDecimal neg d e = fin neg k :=
  ofDecimal_inside neg k d e hk0 hk h

/-- `shortest` returns digits inside the rounding interval (whenever it returns digits at all) … -/
theorem shortest_inside (k c : Nat) (p : Int) (h : shortest k = (c, p)) (hc : c ≠ 0) : DecimalInInterval k c p := by
  have := (shortest_spec k).1
  rw [h] at this
  exact this hc

/-- … so they convert back to the double they were computed from. (`c ≠ 0` = the search did not fall through;
`shortest_succeeds` shows it never does.) -/
theorem ofDecimal_shortest (neg : Bool) (k c : Nat) (p : Int) (hk0 : k ≠ 0) (hk : OnGrid k)
    (h : shortest k = (c, p)) (hc : c ≠ 0) : ofDecimal neg c p = fin neg k :=
  ofDecimal_inside neg k c p hk0 hk (shortest_inside k c p h hc)

/-- seventeen significant digits always suffice: the search never falls through to `(0, 0)` -/
theorem shortest_succeeds (k : Nat) (hk0 : k ≠ 0) (hk : OnGrid k) : (shortest k).1 ≠ 0 :=
  (shortest_spec k).2 hk0 hk.1

theorem ofDecimal_shortest_all (neg : Bool) (k : Nat) (hk0 : k ≠ 0) (hk : OnGrid k) :
    ofDecimal neg (shortest k).1 (shortest k).2 = fin neg k :=
  ofDecimal_shortest neg k _ _ hk0 hk rfl (shortest_succeeds k hk0 hk)

/-- **`Number(format x) = x`** for every finite double: trailing-zero stripping and the fixed / exponent layouts
do not change the value -/
theorem format_to_number (x : F64) (hf : x.isFinite = true) (hx : WF x) :
    JsOp.strToNumber (format x) = some x :=
  (readsAs_format x hf hx).1

theorem format_parse_float (x : F64) (hf : x.isFinite = true) (hx : WF x) :
    JsOp.parseFloatString (format x) = some x :=
  (readsAs_format x hf hx).2

/-! ## every JSON number -/

/-- `Number(text of x) = x.as_f64()` -/
theorem number_text_to_number (x : Num) (hx : Num.WF x) : JsOp.strToNumber x.toStr = some x.toF64 :=
  (readsAs_numToStr x hx).1

/-- a string holding a number's text is numerically that number -/
theorem str_of_number_to_number (x : Num) (hx : Num.WF x) :
    JsOp.toNumber (.str x.toStr) = JsOp.toNumber (.num x) :=
  number_text_to_number x hx

/-- **`[x]` is `x`** for `to_number` (`-`, `/`, `%`, `<`, `min`, `max`, unary minus) -/
theorem array_of_number_to_number (x : Num) (hx : Num.WF x) :
    JsOp.toNumber (.arr [.num x]) = JsOp.toNumber (.num x) := by
  show JsOp.strToNumber (JsOp.toString (.arr [.num x])) = some x.toF64
  rw [toString_singleton_num]; exact number_text_to_number x hx

/-- **`[x]` is `x`** for `parse_float` (`+`, `*`) -/
theorem array_of_number_parse_float (x : Num) (hx : Num.WF x) :
    JsOp.parseFloat (.arr [.num x]) = JsOp.parseFloat (.num x) := by
  show JsOp.parseFloatString (JsOp.toString (.arr [.num x])) = some x.toF64
  rw [toString_singleton_num]; exact (readsAs_numToStr x hx).2

/-- hence `[x] == x` is the comparison of `x.as_f64()` with itself, which holds of everything but NaN
(`Lemmas.F64Order.eq_refl_iff`), and a JSON number is never NaN -/
theorem array_of_number_abstract_eq (x : Num) (hx : Num.WF x) :
    JsOp.abstractEq (.arr [.num x]) (.num x) = F64.eq x.toF64 x.toF64 := by
  simp only [JsOp.abstractEq, JsOp.eqNoBool, JsOp.eqPrim]
  rw [toString_singleton_num, number_text_to_number x hx]

/-! ## the hypotheses are met by real inputs; spot checks of the statements -/
example : Num.WF (.pos 18446744073709551615) := by decide
example : Num.WF (.neg 9223372036854775808) := by decide
example : Num.WF (.flt (F64.ofBits 0x3FB999999999999A)) := by decide +kernel   -- 0.1
example : JsOp.toNumber (.arr [.num (.pos 18446744073709551615)]) = some (F64.ofNat 18446744073709551615) :=
  array_of_posint_to_number _
example : format (F64.ofBits 0x3FB999999999999A) = "0.1".toList := by decide +kernel
example : format (F64.ofBits 0x7FEFFFFFFFFFFFFF) = "1.7976931348623157e+308".toList := by decide +kernel
example : format (F64.ofBits 0x0000000000000001) = "5e-324".toList := by decide +kernel
example : format (F64.ofBits 0x4340000000000000) = "9007199254740992.0".toList := by decide +kernel
example : format (F64.ofBits 0x3EE4F8B588E368F1) = "0.00001".toList := by decide +kernel
example : format (F64.ofBits 0x3EB0C6F7A0B5ED8D) = "1e-6".toList := by decide +kernel
example : format (F64.ofBits 0x40FE240C9FBE76C9) = "123456.789".toList := by decide +kernel
example : format (F64.ofBits 0x444B1AE4D6E2EF50) = "1e+21".toList := by decide +kernel
example : shortest (2 ^ 1074) = (1, 0) := by decide +kernel
example : DecimalInInterval (2 ^ 1074) 1 0 := by decide +kernel

/-- TEST (kernel evaluation, not a proof of the general statement — that is `format_to_number`): the round trip
on forty doubles of every kind: ±0, subnormals, smallest/largest normal, powers of two and their
neighbours, values with 1 … 17 significant digits, fixed- and exponent-notation outputs. -/
def roundTripSamples : List Nat :=
  [0x0000000000000000, 0x8000000000000000, 0x0000000000000001, 0x0000000000000002, 0x0000000000000003,
   0x000FFFFFFFFFFFFF, 0x0010000000000000, 0x0010000000000001, 0x0020000000000000, 0x7FEFFFFFFFFFFFFF,
   0x7FE0000000000000, 0x7FE1CCF385EBC8A0, 0x3FF0000000000000, 0xBFF0000000000000, 0x3FF0000000000001,
   0x3FEFFFFFFFFFFFFF, 0x3FB999999999999A, 0x3FD3333333333333, 0x3FD5555555555555, 0x400921FB54442D18,
   0x4005BF0A8B145769, 0x4011666666666666, 0x4340000000000000, 0x433FFFFFFFFFFFFF, 0x4340000000000001,
   0x4350000000000000, 0x43B0000000000000, 0x3CA0000000000000, 0x444B1AE4D6E2EF50, 0x4480F0CF064DD592,
   0x44B52D02C7E14AF6, 0x3E7AD7F29ABCAF48, 0x3EB0C6F7A0B5ED8D, 0x40FE240C9FBE76C9, 0xC0FE240C9FBE76C9,
   0x0000000000989680, 0x1A56E1FC2F8F359C, 0x6974E718D7D7625A, 0x3EE4F8B588E368F1, 0x16687E92154EF7AC]

/-- for a sample: the digit search succeeds and its digits lie in the rounding interval -/
def sampleDigitsOK (b : Nat) : Bool :=
  match F64.ofBits b with
  | .fin _ k => k == 0 || (decide ((shortest k).1 ≠ 0) && decide (DecimalInInterval k (shortest k).1 (shortest k).2))
  | _ => false

example : ∀ b ∈ roundTripSamples,
    JsOp.strToNumber (format (F64.ofBits b)) = some (F64.ofBits b) ∧
    JsOp.parseFloatString (format (F64.ofBits b)) = some (F64.ofBits b) ∧
    sampleDigitsOK b = true := by
  decide +kernel

end JL.Props.C10
