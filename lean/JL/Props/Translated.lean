import JL.Tie.knot
import JL.Props.C01
import JL.Props.C02
import JL.Props.C05
import JL.Props.C14
import JL.Props.C17
/-!
# The headline property theorems, restated about the crate's `apply` as translated from the current source

`JL.Tie.apply : Gen.apply v d = JL.apply v d` (JL/Tie/knot.lean) carries every theorem about the model's `apply` over to
`Gen.apply`, the Lean rendering of `jsonlogic_rs::apply` that `tools/rs2lean.py` regenerates from `/repo` on every run. This file
spells that out for the theorems that are stated directly about `apply`; the remaining property theorems (about `run`, the operator
specifications, the coercion helpers) transfer the same way through the per-function ties of `JL/Tie/`.
-/
namespace JL.Props.Translated
open JL JL.M JL.Props

/-- C01 for the translated `apply`: it is the model's `apply` (`Tie.apply`), which never panics (`C01.apply_total`). The claim about
indexing and `unwrap` comes from the model, whose panic sites are the hand-audited ones of DESIGN §4.4: in translated code itself
`items[i]` out of range and `unwrap` of `None` are rendered as the type's default value (`Rs.index`, `Rs.unwrap`), not as a panic,
and the operator ties are stated for admitted operand counts only, so the translation by itself witnesses no bounds check. -/
theorem apply_total (r d : Json) : NoPanic (Gen.apply r d) := by
  rw [Tie.apply]; exact C01.apply_total r d

/-- C01: it yields a value or an error value -/
theorem apply_outcome (r d : Json) : (∃ v, (Gen.apply r d).out = .ok v) ∨ (Gen.apply r d).out = .err := by
  rw [Tie.apply]; exact C01.apply_outcome r d

/-- C02: anything that is not an operation is returned unchanged, silently -/
theorem literal_id (v d : Json) (h : C02.isOperation v = false) : Gen.apply v d = ⟨[], .ok v⟩ := by
  rw [Tie.apply]; exact C02.literal_id v d h

/-- C02: an array is never evaluated -/
theorem array_literal_inert (xs : List Json) (d : Json) : Gen.apply (.arr xs) d = ⟨[], .ok (.arr xs)⟩ := by
  rw [Tie.apply]; exact C02.array_literal_inert xs d

/-- C05: `?:` is `if` -/
theorem alias (a d : Json) : Gen.apply (.obj [("?:".toList, a)]) d = Gen.apply (.obj [("if".toList, a)]) d := by
  rw [Tie.apply, Tie.apply]; exact C05.alias a d

/-- C05: `if` is its specification (conditions left to right, the branch of the first truthy one; nothing off that path is
evaluated) -/
theorem if_apply (xs : List Json) (d : Json) : Gen.apply (.obj [("if".toList, .arr xs)]) d = C05.ifSpec d xs := by
  rw [Tie.apply]; exact C05.if_apply xs d
/-- C05: `or` is its specification (the value of the first truthy operand, else of the last; nothing after it is evaluated) -/
theorem or_apply (xs : List Json) (d : Json) : Gen.apply (.obj [("or".toList, .arr xs)]) d = C05.orSpec d xs := by
  rw [Tie.apply]; exact C05.or_apply xs d
/-- C05: `and` is its specification (the value of the first falsy operand, else of the last; nothing after it is evaluated) -/
theorem and_apply (xs : List Json) (d : Json) : Gen.apply (.obj [("and".toList, .arr xs)]) d = C05.andSpec d xs := by
  rw [Tie.apply]; exact C05.and_apply xs d

/-- C14: `all` is its specification (left to right, stopping at the first falsy answer) -/
theorem all_apply (c p d : Json) : Gen.apply (.obj [("all".toList, .arr [c, p])]) d = C14.quantSem C14.allSpec c p d := by
  rw [Tie.apply]; exact C14.all_apply c p d
/-- C14: `some` is its specification (left to right, stopping at the first truthy answer) -/
theorem some_apply (c p d : Json) : Gen.apply (.obj [("some".toList, .arr [c, p])]) d = C14.quantSem C14.someSpec c p d := by
  rw [Tie.apply]; exact C14.some_apply c p d

/-- C17: a literal rule writes nothing -/
theorem literal_silent (r d : Json) (hr : ∀ k v, r ≠ .obj [(k, v)]) : (Gen.apply r d).logs = [] := by
  rw [Tie.apply]; exact C17.literal_silent r d hr

end JL.Props.Translated
