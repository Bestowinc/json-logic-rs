import JL.Props.C11
import JL.Lemmas.C12
/-!
# C12 — `missing` / `missing_some` report exactly the keys that `var` cannot find

Specification vocabulary (`ValidKey`, `isAbsent`, `isPresent`, `present`, `adjust`, `dedup`, `BadBefore`) is in
`JL/Spec/Path.lean` (namespace `JL.Spec.Missing`).
-/
namespace JL.Props.C12
open JL Json Data JL.Spec.Missing JL.Lemmas.C11 JL.Lemmas.C12

/-- the keys `missing` must report, in request order: non-null keys whose lookup finds nothing -/
def absentKeys (data : Json) : List Json → Option (List Json)
  | [] => some []
  | k :: rest =>
      match keyOf k with
      | none => none
      | some .null => absentKeys data rest
      | some key =>
          match absentKeys data rest with
          | none => none
          | some r => some (if (getKey data key).isNone then k :: r else r)

/-- the recursion in one formula: nothing if some operand is not a valid key, else the absent ones -/
theorem absentKeys_eq (data : Json) (ks : List Json) :
    absentKeys data ks = if ∀ k ∈ ks, ValidKey k then some (ks.filter (isAbsent data)) else none := by
  induction ks with
  | nil => exact (if_pos nofun).symm
  | cons k rest ih =>
    rw [absentKeys, ih, List.filter_cons, isAbsent]
    cases hk : keyOf k with
    | none => exact (if_neg fun h => h k List.mem_cons_self hk).symm
    | some key =>
      by_cases hr : ∀ k ∈ rest, ValidKey k
      · rw [if_pos hr, if_pos (List.forall_mem_cons.2 ⟨by rw [ValidKey, hk]; nofun, hr⟩)]
        cases key <;> rfl
      · rw [if_neg hr, if_neg fun h => hr fun k' hk' => h k' (List.mem_cons_of_mem _ hk')]
        cases key <;> rfl

/-- the accumulator-passing fold of the code equals the direct recursive specification -/
theorem missingFold_spec (data : Json) (ks acc : List Json) :
    missingFold data ks acc = (match absentKeys data ks with
      | some r => ⟨[], .ok (acc ++ r)⟩
      | none => ⟨[], .err⟩) := by
  rw [missingFold_eq, absentKeys_eq]; split <;> rfl

/-! ## `missing` -/

/-- a first operand that is an array supplies the whole key list, whatever follows: `missing` on `[vals, …]` is `missing`
on `vals` — unless `vals` itself begins with an array, which `missing data vals` would unwrap once more (the second
disjunct; `first_array_is_list_sharp` has no exception) -/
theorem first_array_is_list (data : Json) (vals rest : List Json) :
    missing data (.arr vals :: rest) = missing data vals ∨ ∃ x xs, vals = .arr x :: xs := by
  cases vals with
  | nil => left; simp [missing]
  | cons v vs =>
    cases v with
    | arr x => right; exact ⟨x, vs, rfl⟩
    | _ => left; simp [missing]

/-- `first_array_is_list`, sharp form: whatever follows, and whatever the array contains, a first operand that
is an array is the key list -/
theorem first_array_is_list_sharp (data : Json) (vals rest : List Json) :
    missing data (.arr vals :: rest) = missingFold data vals [] >>= fun ks => pure (.arr ks) := rfl

/-- in every case `missing` is the fold over `adjust args`: the elements of a first operand that is an array, else all
operands -/
theorem missing_adjust (data : Json) (args : List Json) :
    missing data args = missingFold data (adjust args) [] >>= fun ks => pure (.arr ks) := by
  cases args with
  | nil => rfl
  | cons a rest => cases a <;> rfl

/-- `missing` in one equation: an error if some listed operand is not a valid key, else the listed keys that
are absent, in request order -/
theorem missing_eq (data : Json) (args : List Json) :
    missing data args =
      if ∀ k ∈ adjust args, ValidKey k then ⟨[], .ok (.arr ((adjust args).filter (isAbsent data)))⟩
      else ⟨[], .err⟩ := by
  rw [missing_adjust, missingFold_eq]; split <;> rfl

/-- the recursive specification in filter form, when every listed operand is a valid key -/
theorem absentKeys_filter (data : Json) (ks : List Json) (hv : ∀ k ∈ ks, ValidKey k) :
    absentKeys data ks = some (ks.filter (isAbsent data)) := by
  rw [absentKeys_eq, if_pos hv]

/-- With valid keys, `missing` returns, in request order, exactly the listed non-null
keys whose lookup finds nothing. -/
theorem missing_spec (data : Json) (args : List Json) (hv : ∀ k ∈ adjust args, ValidKey k) :
    missing data args = ⟨[], .ok (.arr ((adjust args).filter (isAbsent data)))⟩ := by
  rw [missing_eq, if_pos hv]

/-- an operand that is not a valid key anywhere in the list: error -/
theorem missing_err (data : Json) (args : List Json) (hv : ∃ k ∈ adjust args, ¬ ValidKey k) :
    missing data args = ⟨[], .err⟩ := by
  rw [missing_eq, if_neg fun h => let ⟨k, hk, hn⟩ := hv; hn (h k hk)]

theorem missing_ok_iff (data : Json) (args : List Json) :
    (∃ v, missing data args = ⟨[], .ok v⟩) ↔ ∀ k ∈ adjust args, ValidKey k := by
  rw [missing_eq]; split
  · exact iff_of_true ⟨_, rfl⟩ ‹_›
  · exact iff_of_false (by simp) ‹_›

/-- order (and multiplicity) of the request is preserved: the result is a sub-list of the key list -/
theorem missing_order (data : Json) (args : List Json) :
    ((adjust args).filter (isAbsent data)).Sublist (adjust args) := List.filter_sublist

/-- "absent" for `missing` is "absent" for `var` (they call the same `get_key`): with one *fresh* sentinel — one that
`var` without default does not return for this key — a key is reported iff it is not the null key and `var` with that
default returns it. No validity hypothesis: an invalid operand is an error for both. -/
theorem absent_iff_var_fresh (d k s : Json) (hfresh : var d [k] ≠ ⟨[], .ok s⟩) :
    isAbsent d k = true ↔ keyOf k ≠ some .null ∧ var d [k, s] = ⟨[], .ok s⟩ := by
  rw [isAbsent_iff]
  constructor
  · rintro ⟨key, hk, hne, hg⟩
    exact ⟨fun h => hne (Option.some.inj (hk.symm.trans h)), by rw [C11.default_law_general d k _ key hk, hg]; rfl⟩
  · rintro ⟨hnn, hs⟩
    cases hk : keyOf k with
    | none => rw [C11.var_bad_key d k _ hk] at hs; cases hs
    | some key =>
      refine ⟨key, rfl, fun e => hnn (hk.trans (congrArg some e)), ?_⟩
      -- a value that is found is returned with and without a default: it would be the sentinel
      rw [C11.default_law_general d k _ key hk] at hs hfresh
      cases hg : getKey d key with
      | none => rfl
      | some v => rw [hg] at hs hfresh; exact absurd hs hfresh

/-- … hence iff `var` returns the default **for every default**: of two different defaults one is fresh -/
theorem absent_iff_var (d k : Json) :
    isAbsent d k = true ↔ keyOf k ≠ some .null ∧ ∀ s, var d [k, s] = ⟨[], .ok s⟩ := by
  constructor
  · intro h
    obtain ⟨key, hk, hne, hg⟩ := isAbsent_iff.mp h
    exact ⟨fun h => hne (Option.some.inj (hk.symm.trans h)), fun s => by rw [C11.default_law_general d k _ key hk, hg]; rfl⟩
  · rintro ⟨hnn, hs⟩
    by_cases h0 : var d [k] = ⟨[], .ok .null⟩
    · exact (absent_iff_var_fresh d k (.bool true) (by rw [h0]; simp)).mpr ⟨hnn, hs _⟩
    · exact (absent_iff_var_fresh d k .null h0).mpr ⟨hnn, hs _⟩

/-- `k` is in the result of `missing` iff it is listed, is not the null key, and
`{"var": [k, s]}` on the same data returns the default `s`, for every `s`. -/
theorem missing_var (d : Json) (args : List Json) (hv : ∀ k ∈ adjust args, ValidKey k) :
    ∃ ks, missing d args = ⟨[], .ok (.arr ks)⟩ ∧
      ∀ k, k ∈ ks ↔ (k ∈ adjust args ∧ keyOf k ≠ some .null ∧ ∀ s, var d [k, s] = ⟨[], .ok s⟩) := by
  refine ⟨_, missing_spec d args hv, fun k => ?_⟩
  simp only [List.mem_filter, absent_iff_var]

/-- with a sentinel that occurs nowhere as a found value or as `null` -/
theorem missing_var_fresh (d : Json) (args : List Json) (hv : ∀ k ∈ adjust args, ValidKey k) (s : Json)
    (hfresh : ∀ k ∈ adjust args, var d [k] ≠ ⟨[], .ok s⟩) :
    ∃ ks, missing d args = ⟨[], .ok (.arr ks)⟩ ∧
      ∀ k, k ∈ ks ↔ (k ∈ adjust args ∧ keyOf k ≠ some .null ∧ var d [k, s] = ⟨[], .ok s⟩) := by
  refine ⟨_, missing_spec d args hv, fun k => ?_⟩
  simp only [List.mem_filter]
  exact and_congr_right fun h1 => absent_iff_var_fresh d k s (hfresh k h1)

/-- a key present with a null or empty value is not missing; null keys are ignored -/
example : missing (.obj [("a".toList, .null), ("b".toList, .str []), ("c".toList, .arr [])])
    [.str "a".toList, .null, .str "b".toList, .str "z".toList, .str "c".toList, .str "z".toList, .num (.pos 0)] =
    ⟨[], .ok (.arr [.str "z".toList, .str "z".toList, .num (.pos 0)])⟩ := by decide +kernel
example : ∀ k ∈ adjust [.str "a".toList, .null, .num (.pos 0), .num (.neg 3)], ValidKey k := by decide +kernel
example : missing .null [.bool true] = ⟨[], .err⟩ := by decide +kernel

/-- from the public entry point, literal operands -/
theorem apply_missing_literals (xs : List Json) (d : Json) (hl : ∀ x ∈ xs, JL.Lemmas.C11.Literal x) :
    apply (.obj [("missing".toList, .arr xs)]) d = missing d xs := by
  rw [apply_data_literals lookup_missing xs d hl rfl, execData_missing]

/-- from the public entry point, computed operands (`merge`, `var`, …): they are evaluated first -/
theorem apply_missing (xs : List Json) (d : Json) (hc : check (.obj [("missing".toList, .arr xs)]) = true) :
    apply (.obj [("missing".toList, .arr xs)]) d = runList xs d >>= missing d := by
  rw [apply_data lookup_missing hc, execData_missing]; rfl

/-! ## `missing_some` -/

/-- In general: if no invalid key stands before the position where the `n`-th present
key has been seen, the early-exit fold of the code gives the non-short-circuit answer: `[]` when at least `n`
list positions hold a key that is found, otherwise the distinct absent keys in order of first occurrence.
An absent key never counts, however often it is listed (`present` counts found positions only). -/
theorem missing_some_spec_general (d : Json) (thr : Num) (n : Nat) (hn : thr.asU64 = some n)
    (keys rest : List Json) (hv : ¬ BadBefore d n keys) :
    missingSome d (.num thr :: .arr keys :: rest) =
      ⟨[], .ok (.arr (if n ≤ present d keys then [] else dedup (keys.filter (isAbsent d))))⟩ := by
  rw [missingSome_eq d thr n hn, missingSomeFold_ok d n keys 0 [] hv]; rfl

/-- under the guard "all keys valid" -/
theorem missing_some_spec (d : Json) (thr : Num) (n : Nat) (hn : thr.asU64 = some n)
    (keys rest : List Json) (hv : ∀ k ∈ keys, ValidKey k) :
    missingSome d (.num thr :: .arr keys :: rest) =
      ⟨[], .ok (.arr (if n ≤ present d keys then [] else dedup (keys.filter (isAbsent d))))⟩ :=
  missing_some_spec_general d thr n hn keys rest fun ⟨pre, k, _, he, hk, _⟩ => hv k (by simp [he]) hk

/-- error branch: an invalid key met before the threshold is reached -/
theorem missing_some_err (d : Json) (thr : Num) (n : Nat) (hn : thr.asU64 = some n)
    (keys rest : List Json) (hb : BadBefore d n keys) :
    missingSome d (.num thr :: .arr keys :: rest) = ⟨[], .err⟩ := by
  rw [missingSome_eq d thr n hn, missingSomeFold_err d n keys 0 [] hb]; rfl

/-- … and only then -/
theorem missing_some_err_iff (d : Json) (thr : Num) (n : Nat) (hn : thr.asU64 = some n) (keys rest : List Json) :
    missingSome d (.num thr :: .arr keys :: rest) = ⟨[], .err⟩ ↔ BadBefore d n keys := by
  refine ⟨fun h => Classical.byContradiction fun hb => ?_, missing_some_err d thr n hn keys rest⟩
  rw [missing_some_spec_general d thr n hn keys rest hb] at h
  cases h

/-- the other operand shapes: a threshold that is not a `u64`, a key operand that is not an array -/
theorem missing_some_bad_threshold (d thr ks : Json) (rest : List Json)
    (h : ∀ n, thr = .num n → n.asU64 = none) : missingSome d (thr :: ks :: rest) = ⟨[], .err⟩ := by
  unfold missingSome
  cases thr with
  | num n => simp [h n rfl]
  | _ => rfl

example : ∀ n, Json.str "2".toList = .num n → n.asU64 = none := by intro n h; cases h
example : missingSome .null [.num (.neg 1), .arr []] = ⟨[], .err⟩ ∧ missingSome .null [.num (.pos 1), .str []] = ⟨[], .err⟩ := by
  decide +kernel

theorem missing_some_not_array (d : Json) (thr : Num) (n : Nat) (hn : thr.asU64 = some n) (ks : Json) (rest : List Json)
    (h : ∀ xs, ks ≠ .arr xs) : missingSome d (.num thr :: ks :: rest) = ⟨[], .err⟩ := by
  unfold missingSome
  cases ks with
  | arr xs => exact absurd rfl (h xs)
  | _ => simp [hn]

/-- threshold 0: always `[]` — nothing is examined, not even invalid keys -/
theorem missing_some_zero (d : Json) (thr : Num) (hn : thr.asU64 = some 0) (keys rest : List Json) :
    missingSome d (.num thr :: .arr keys :: rest) = ⟨[], .ok (.arr [])⟩ := by
  rw [missing_some_spec_general d thr 0 hn keys rest (not_badBefore_zero d keys), if_pos (Nat.zero_le _)]

/-- threshold above the number of present keys (in particular above the number of keys): all distinct absent keys -/
theorem missing_some_not_reached (d : Json) (thr : Num) (n : Nat) (hn : thr.asU64 = some n)
    (keys rest : List Json) (hv : ∀ k ∈ keys, ValidKey k) (hlt : present d keys < n) :
    missingSome d (.num thr :: .arr keys :: rest) = ⟨[], .ok (.arr (dedup (keys.filter (isAbsent d))))⟩ := by
  rw [missing_some_spec d thr n hn keys rest hv, if_neg (Nat.not_le.2 hlt)]

theorem missing_some_above_length (d : Json) (thr : Num) (n : Nat) (hn : thr.asU64 = some n)
    (keys rest : List Json) (hv : ∀ k ∈ keys, ValidKey k) (hlt : keys.length < n) :
    missingSome d (.num thr :: .arr keys :: rest) = ⟨[], .ok (.arr (dedup (keys.filter (isAbsent d))))⟩ :=
  missing_some_not_reached d thr n hn keys rest hv (Nat.lt_of_le_of_lt List.countP_le_length hlt)

/-- threshold reached: `[]` -/
theorem missing_some_reached (d : Json) (thr : Num) (n : Nat) (hn : thr.asU64 = some n)
    (keys rest : List Json) (hv : ∀ k ∈ keys, ValidKey k) (hle : n ≤ present d keys) :
    missingSome d (.num thr :: .arr keys :: rest) = ⟨[], .ok (.arr [])⟩ := by
  rw [missing_some_spec d thr n hn keys rest hv, if_pos hle]

theorem absent_not_present (d k : Json) (h : isAbsent d k = true) : isPresent d k = false := by
  -- the lookup that finds nothing is the lookup `isPresent` asks
  obtain ⟨key, hk, -, hg⟩ := isAbsent_iff.1 h
  rw [isPresent, hk]
  cases key
  · rfl
  all_goals exact congrArg Option.isSome hg

/-- an absent key is never counted as present, however many times it is listed: if every listed key is absent,
then for every threshold `n ≥ 1` the result is the list of distinct keys -/
theorem missing_some_all_absent (d : Json) (thr : Num) (n : Nat) (hn : thr.asU64 = some n) (h1 : 1 ≤ n)
    (keys rest : List Json) (hv : ∀ k ∈ keys, ValidKey k) (ha : ∀ k ∈ keys, isAbsent d k = true) :
    missingSome d (.num thr :: .arr keys :: rest) = ⟨[], .ok (.arr (dedup keys))⟩ := by
  have hp : present d keys = 0 :=
    List.countP_eq_zero.2 fun k hk => by rw [absent_not_present d k (ha k hk)]; exact Bool.false_ne_true
  rw [missing_some_not_reached d thr n hn keys rest hv (by rw [hp]; exact h1), List.filter_eq_self.2 ha]

/-- `present` counts exactly the positions whose key is found; absent, null and invalid operands add nothing -/
theorem present_cons (d k : Json) (rest : List Json) :
    present d (k :: rest) = (if isPresent d k then 1 else 0) + present d rest :=
  Lemmas.C12.present_cons d k rest

/-! ### what `dedup` is -/

/-- a sub-list of its argument (order of first occurrence) … -/
theorem dedup_sublist (xs : List Json) : (dedup xs).Sublist xs := dedupFrom_sublist [] xs
/-- … whose elements are pairwise different for `Json.beq` (the `==` of `Vec::contains`) … -/
theorem dedup_pairwise (xs : List Json) : (dedup xs).Pairwise (fun a b => Json.beq a b = false) :=
  dedupFrom_pairwise [] xs
/-- … and every element of the argument is kept or is `beq`-equal to a kept one -/
theorem dedup_covers (xs : List Json) (x : Json) (hx : x ∈ xs) : x ∈ dedup xs ∨ Json.contains (dedup xs) x = true := by
  simpa [dedup] using dedupFrom_covers [] xs x hx
/-- on valid keys `Json.beq` is equality, so `dedup` has the same members and no duplicates -/
theorem beq_valid_key (a b : Json) (ha : ValidKey a) : Json.beq a b = true ↔ a = b := by
  cases a with
  | null => cases b <;> simp [Json.beq]
  | str s => cases b <;> simp [Json.beq]
  | num n =>
    cases n with
    | flt f => exact absurd rfl ha
    | _ =>
      cases b with
      | num m => cases m <;> simp [Json.beq, Num.beq]
      | _ => simp [Json.beq]
  | _ => exact absurd rfl ha
theorem mem_dedup (xs : List Json) (hv : ∀ k ∈ xs, ValidKey k) (k : Json) : k ∈ dedup xs ↔ k ∈ xs := by
  refine ⟨fun h => (dedup_sublist xs).subset h, fun h => (dedup_covers xs k h).elim id fun hc => ?_⟩
  obtain ⟨y, hy, hb⟩ := List.any_eq_true.1 hc
  exact (beq_valid_key y k (hv y ((dedup_sublist xs).subset hy))).1 hb ▸ hy
theorem nodup_dedup (xs : List Json) (hv : ∀ k ∈ xs, ValidKey k) : (dedup xs).Nodup :=
  (dedup_pairwise xs).imp_of_mem fun ha _ hab heq =>
    Bool.false_ne_true (hab.symm.trans ((beq_valid_key _ _ (hv _ ((dedup_sublist xs).subset ha))).2 heq))

/-- from the public entry point, literal operands -/
theorem apply_missing_some_literals (a b d : Json) (ha : JL.Lemmas.C11.Literal a) (hb : JL.Lemmas.C11.Literal b) :
    apply (.obj [("missing_some".toList, .arr [a, b])]) d = missingSome d [a, b] := by
  rw [apply_data_literals lookup_missing_some _ d (literal_pair ha hb) rfl, execData_missing_some]

theorem apply_missing_some (xs : List Json) (d : Json) (hc : check (.obj [("missing_some".toList, .arr xs)]) = true) :
    apply (.obj [("missing_some".toList, .arr xs)]) d = runList xs d >>= missingSome d := by
  rw [apply_data lookup_missing_some hc, execData_missing_some]; rfl

/-! ### non-vacuity -/

/-- the input of defect D5 (DESIGN §9): `{"missing_some":[2,["a","a","b"]]}` on `{"b":1}` gives `["a"]` -/
example : apply (.obj [("missing_some".toList, .arr [.num (.pos 2), .arr [.str "a".toList, .str "a".toList, .str "b".toList]])])
    (.obj [("b".toList, .num (.pos 1))]) = ⟨[], .ok (.arr [.str "a".toList])⟩ := by
  rw [apply_missing_some_literals _ _ _ (by trivial) (by trivial)]
  decide +kernel

/-- the hypotheses of `missing_some_spec` on that input, and both sides of its conclusion -/
example : let d := Json.obj [("b".toList, .num (.pos 1))]
    let keys := [Json.str "a".toList, .str "a".toList, .str "b".toList]
    (Num.pos 2).asU64 = some 2 ∧ (∀ k ∈ keys, ValidKey k) ∧ present d keys = 1 ∧
    dedup (keys.filter (isAbsent d)) = [.str "a".toList] ∧
    missingSome d [.num (.pos 2), .arr keys] = ⟨[], .ok (.arr [.str "a".toList])⟩ := by decide +kernel

/-- thresholds 0 … n+1 on that input -/
example : let d := Json.obj [("b".toList, .num (.pos 1))]
    let keys := Json.arr [.str "a".toList, .str "a".toList, .str "b".toList]
    missingSome d [.num (.pos 0), keys] = ⟨[], .ok (.arr [])⟩ ∧
    missingSome d [.num (.pos 1), keys] = ⟨[], .ok (.arr [])⟩ ∧
    missingSome d [.num (.pos 3), keys] = ⟨[], .ok (.arr [.str "a".toList])⟩ ∧
    missingSome d [.num (.pos 4), keys] = ⟨[], .ok (.arr [.str "a".toList])⟩ := by decide +kernel

/-- an invalid key after the threshold is reached is never looked at; before, it is an error -/
example : let d := Json.obj [("b".toList, .num (.pos 1))]
    missingSome d [.num (.pos 1), .arr [.str "b".toList, .bool true]] = ⟨[], .ok (.arr [])⟩ ∧
    missingSome d [.num (.pos 1), .arr [.bool true, .str "b".toList]] = ⟨[], .err⟩ ∧
    missingSome d [.num (.pos 2), .arr [.str "b".toList, .bool true]] = ⟨[], .err⟩ := by decide +kernel

example : BadBefore (.obj [("b".toList, .num (.pos 1))]) 2 [.str "b".toList, .bool true] :=
  ⟨[.str "b".toList], .bool true, [], rfl, by decide +kernel, by decide +kernel⟩

end JL.Props.C12
