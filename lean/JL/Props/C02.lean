import JL.Lemmas.Run
/-!
# C02 — only single-key objects keyed by an operator name are rules; the rest is literal
-/
namespace JL.Props.C02
open JL Json

/-- the supported operator names: the full JsonLogic set plus `?:` (written from the property / documentation) -/
def documentedNames : List Str :=
  ["==", "===", "!=", "!==", "!", "!!", "<", "<=", ">", ">=", "+", "-", "*", "/", "%", "max", "min",
   "merge", "in", "cat", "substr", "log", "var", "missing", "missing_some",
   "if", "?:", "or", "and", "map", "filter", "reduce", "all", "some", "none"].map String.toList

def allEntries : List Entry := Tables.eager ++ Tables.lazy ++ Tables.data

/-- a value is an operation iff it is an object with exactly one key and that key is a documented name -/
def isOperation : Json → Bool
  | .obj [(k, _)] => documentedNames.contains k
  | _ => false

/-- The keys of the three operator tables *as regenerated from the source on this run* are exactly the 35
documented names, each once (so the tables are disjoint), and every `symbol` equals its key. -/
theorem generated_names :
    (allEntries.map (·.key)).Perm documentedNames ∧ (allEntries.map (·.key)).Nodup ∧ allEntries.all (fun e => e.symbol == e.key) = true := by
  decide +kernel

/-- exact match: a key is recognised iff it is (exactly, as a string) one of the documented names -/
theorem lookup_iff (k : Str) : (lookupOp k).isSome = documentedNames.contains k :=
  (lookupOp_isSome k).trans generated_names.1.contains_eq

theorem literal_cases {v : Json} (h : isOperation v = false) :
    (∃ k a, v = .obj [(k, a)] ∧ lookupOp k = none) ∨ ∀ k a, v ≠ .obj [(k, a)] := by
  unfold isOperation at h
  split at h
  · exact .inl ⟨_, _, rfl, Option.not_isSome_iff_eq_none.mp (by rw [lookup_iff, h]; exact Bool.false_ne_true)⟩
  · exact .inr ‹_›

theorem check_literal (v : Json) (h : isOperation v = false) : check v = true := by
  obtain ⟨k, a, rfl, hk⟩ | hv := literal_cases h
  · exact check_unknown hk a
  · exact JL.check_literal hv

theorem run_literal (v d : Json) (h : isOperation v = false) : run v d = pure v := by
  obtain ⟨k, a, rfl, hk⟩ | hv := literal_cases h
  · exact run_unknown hk a d
  · exact JL.run_literal hv d

/-- **Literal identity.** Every value that is not a single-key object keyed by a documented operator name —
primitives, arrays, `{}`, multi-key objects, single-key objects with any other key (prefixes, case variants,
padded names, …) — evaluates to itself, structurally identical, with no log line, whatever the data. -/
theorem literal_id (v d : Json) (h : isOperation v = false) : apply v d = ⟨[], .ok v⟩ := by
  rw [apply_of_check (check_literal v h), run_literal v d h]
  rfl

/-- Arrays are never operations: an array literal (also one whose elements look like operations) is returned as is. -/
theorem array_literal_inert (xs : List Json) (d : Json) : apply (.arr xs) d = ⟨[], .ok (.arr xs)⟩ :=
  literal_id _ _ rfl

/-- Multi-key objects are never operations, whatever their keys. -/
theorem multikey_inert (kv₁ kv₂ : Str × Json) (rest : List (Str × Json)) (d : Json) :
    apply (.obj (kv₁ :: kv₂ :: rest)) d = ⟨[], .ok (.obj (kv₁ :: kv₂ :: rest))⟩ :=
  literal_id _ _ rfl

/-- Dispatch: a single-key object keyed by a documented name is not returned as a literal by the parse phase —
its operand shape and count are validated against that operator's arity descriptor. -/
theorem dispatch (k : Str) (hk : documentedNames.contains k = true) : ∃ kind ar, lookupOp k = some (kind, ar) := by
  obtain ⟨⟨kind, ar⟩, h⟩ := Option.isSome_iff_exists.mp ((lookup_iff k).trans hk)
  exact ⟨kind, ar, h⟩

/-! ## literals in operand position are inert -/

theorem checkList_literals (xs : List Json) (h : ∀ x ∈ xs, isOperation x = false) : checkList xs = true :=
  (checkList_iff xs).mpr fun x hx => check_literal x (h x hx)

/-- a list of literal operands evaluates to itself: no element is interpreted, nothing is logged -/
theorem runList_literals (xs : List Json) (d : Json) (h : ∀ x ∈ xs, isOperation x = false) :
    runList xs d = pure xs :=
  runList_of_self xs d fun x hx => run_literal x d (h x hx)

/-- **Literal operands are inert (eager operators).** If every operand of an eager operator is a literal (a
non-operation: in particular any array, also one whose elements look like operations), the operator's
implementation receives exactly those values: `{k: [v₁ … vₙ]}` is `k`'s function applied to `[v₁ … vₙ]`. -/
theorem literal_inert (k : Str) (ar : Arity) (xs : List Json) (d : Json)
    (hk : lookupOp k = some (.eager, ar)) (h : ∀ x ∈ xs, isOperation x = false) :
    run (.obj [(k, .arr xs)]) d = execEager k xs := by
  rw [run_eager hk _ d, operands, runList_literals xs d h, M.pure_bind]

/-- the same through `apply`: the count is validated, then the operator sees the literals themselves -/
theorem literal_inert_apply (k : Str) (ar : Arity) (xs : List Json) (d : Json)
    (hk : lookupOp k = some (.eager, ar)) (h : ∀ x ∈ xs, isOperation x = false) :
    apply (.obj [(k, .arr xs)]) d = if ar.isValidLen xs.length then execEager k xs else M.err := by
  rw [apply, literal_inert k ar xs d hk h, check_op hk, operands, checkList_literals xs h, Bool.or_true, Bool.and_true]
  rfl

/-- **… and data operators** (`var`, `missing`, `missing_some`) -/
theorem literal_inert_data (k : Str) (ar : Arity) (xs : List Json) (d : Json)
    (hk : lookupOp k = some (.data, ar)) (h : ∀ x ∈ xs, isOperation x = false) :
    run (.obj [(k, .arr xs)]) d = execData k d xs := by
  rw [run_data hk _ d, operands, runList_literals xs d h, M.pure_bind]

/-- an array literal as an operand reaches the operator as the value it is, whatever it contains -/
theorem array_operand_inert (xs : List Json) (d : Json) : run (.arr xs) d = ⟨[], .ok (.arr xs)⟩ :=
  run_literal _ _ rfl

/-- instance: `merge` of one array literal returns the array unchanged, even when its elements are operation-shaped -/
theorem merge_array_literal (xs : List Json) (d : Json) :
    apply (.obj [("merge".toList, .arr [.arr xs])]) d = ⟨[], .ok (.arr xs)⟩ := by
  rw [literal_inert_apply _ _ _ d lookup_merge (fun x hx => by cases List.mem_singleton.mp hx; rfl)]
  unfold execEager
  simp only [String.toList_inj, String.reduceEq, ↓reduceIte, Arity.isValidLen]
  simp [ArrOp.merge]

/-! ## no prefix, case or whitespace variants -/

/-- **Exact match.** Being an operation is decided by exact membership of the key in the list of documented names —
nothing else about the key (a recognised prefix, its lower-cased or trimmed form) matters. -/
theorem isOperation_single (k : Str) (v : Json) : isOperation (.obj [(k, v)]) = documentedNames.contains k := rfl

/-- a single-key object whose key is not *exactly* a documented name is a literal -/
theorem unknown_key_literal (k : Str) (v d : Json) (h : documentedNames.contains k = false) :
    apply (.obj [(k, v)]) d = ⟨[], .ok (.obj [(k, v)])⟩ :=
  literal_id _ _ h

/-- no documented name contains a whitespace or an upper-case character … -/
theorem names_no_ws_upper : documentedNames.all (fun k => !k.any (fun c => c.isWhitespace || c.isUpper)) = true := by
  decide +kernel

/-- … hence **no key with surrounding (or inner) whitespace and no key with a capital letter is recognised**: every
padded variant `" var"`, `"var "`, `"\tif"` and every case variant `"Var"`, `"IF"`, `"Max"` of any name is a literal. -/
theorem no_case_ws_variant (k : Str) (v d : Json) (h : k.any (fun c => c.isWhitespace || c.isUpper) = true) :
    apply (.obj [(k, v)]) d = ⟨[], .ok (.obj [(k, v)])⟩ := by
  apply unknown_key_literal
  rw [Bool.eq_false_iff]
  intro hc
  have := List.all_eq_true.mp names_no_ws_upper k (List.contains_iff_mem.mp hc)
  rw [h] at this
  cases this

/-- a single-key object is an operation exactly when its key is, as it stands, a documented name: a name with a space on
either side, or with any character put before or after it, counts only if the result is itself a documented name (e.g.
`"!" ++ "="`, `"<" ++ "="`; `one_char_extensions` lists them) -/
theorem no_prefix_case_ws (k' : Str) (v : Json) :
    isOperation (.obj [(k', v)]) = true ↔ k' ∈ documentedNames := by
  simp [isOperation]

/-- the extensions of documented names by one character that are recognised are exactly these six; all other
`k ++ [c]` are literals -/
theorem one_char_extensions (k : Str) (c : Char) (hk : k ∈ documentedNames) :
    documentedNames.contains (k ++ [c]) = true ↔
      (k ++ [c]) ∈ ["===", "!=", "!==", "!!", "<=", ">="].map String.toList := by
  -- `k` is `(k ++ [c]).dropLast`: the names whose `dropLast` is a name too are these six, in this order
  have six : documentedNames.filter (fun n => documentedNames.contains n.dropLast)
      = ["===", "!=", "!==", "!!", "<=", ">="].map String.toList := by decide +kernel
  rw [← six, List.mem_filter, List.dropLast_concat, List.contains_iff_mem, List.contains_iff_mem]
  exact (and_iff_left hk).symm

/-! non-vacuity -/
example : isOperation (.obj [("var ".toList, .str "a".toList)]) = false := by decide +kernel
example : isOperation (.obj [("VAR".toList, .null)]) = false := by decide +kernel
example : isOperation (.obj [("if".toList, .null), ("note".toList, .null)]) = false := by decide +kernel
example : isOperation (.obj [("?:".toList, .arr [])]) = true := by decide +kernel

/-- `literal_inert`: the hypotheses are met by operands that *look like* operations nested in literals -/
example : lookupOp "cat".toList = some (.eager, .any) := lookup_cat
example : ∀ x ∈ [Json.arr [.obj [("var".toList, .str "a".toList)]], .obj [("var".toList, .null), ("x".toList, .null)]],
    isOperation x = false := by decide +kernel
example : apply (.obj [("merge".toList, .arr [.arr [.obj [("log".toList, .str "LEAK".toList)]]])]) .null
    = ⟨[], .ok (.arr [.obj [("log".toList, .str "LEAK".toList)]])⟩ := by decide +kernel
/-- `no_case_ws_variant`: the hypothesis is met by padded and capitalised names -/
example : (" var".toList.any fun c => c.isWhitespace || c.isUpper) = true ∧ ("var\t".toList.any fun c => c.isWhitespace || c.isUpper) = true
    ∧ ("Var".toList.any fun c => c.isWhitespace || c.isUpper) = true ∧ ("IF".toList.any fun c => c.isWhitespace || c.isUpper) = true := by decide +kernel
/-- prefixes and extensions of names that are not themselves names are literals -/
example : isOperation (.obj [("va".toList, .null)]) = false ∧ isOperation (.obj [("vars".toList, .null)]) = false
    ∧ isOperation (.obj [("=".toList, .null)]) = false ∧ isOperation (.obj [("====".toList, .null)]) = false
    ∧ isOperation (.obj [("missing_".toList, .null)]) = false ∧ isOperation (.obj [("".toList, .null)]) = false := by decide +kernel
/-- … and those that are names are dispatched as what they are -/
example : isOperation (.obj [("!".toList, .null)]) = true ∧ isOperation (.obj [("!=".toList, .null)]) = true ∧ isOperation (.obj [("!==".toList, .null)]) = true := by decide +kernel

/-! ## the model covers the tables -/

/-- the operator keys the hand-written model implements, per table (`execEager`, `execData`, the lazy branch of `run`) -/
def modelEager : List Str := ["==", "!=", "===", "!==", "!", "!!", "<", "<=", ">", ">=", "+", "*", "-", "/", "%", "max", "min",
  "merge", "in", "cat", "substr", "log"].map String.toList
def modelData : List Str := ["var", "missing", "missing_some"].map String.toList
def modelLazy : List Str := ["if", "?:", "or", "and", "map", "filter", "reduce", "all", "some", "none"].map String.toList

/-- **The model covers the tables as they stand in the source now**: every key of each regenerated table is implemented by the
model *in that same table's evaluation discipline* (eager / data / lazy), and vice versa. Moving an operator between tables, or
adding one, makes this fail to check (the model's dispatch would be stale). -/
theorem model_covers_tables :
    (Tables.eager.map (·.key)).Perm modelEager ∧ (Tables.data.map (·.key)).Perm modelData ∧ (Tables.lazy.map (·.key)).Perm modelLazy := by
  decide +kernel

end JL.Props.C02
