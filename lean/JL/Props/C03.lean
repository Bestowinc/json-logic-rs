import JL.Props.C02
import JL.Lemmas.C03
/-!
# C03 — every operator enforces its arity; `{op: x}` means exactly `{op: [x]}`
-/
namespace JL.Props.C03
open JL Json JL.Props.C02

/-- a set of operand counts `{n | lo ≤ n < hi}`, `hi = none` meaning unbounded -/
abbrev Range := Nat × Option Nat

def inRange : Range → Nat → Bool
  | (lo, none), n => decide (lo ≤ n)
  | (lo, some hi), n => decide (lo ≤ n) && decide (n < hi)

/-- the documented operand counts of the property, written from its text -/
def documented (k : Str) : Option Range :=
  if k ∈ ["==", "!=", "===", "!==", "/", "%", "in", "map", "filter", "all", "some", "none", "missing_some"].map String.toList then some (2, some 3)
  else if k ∈ ["<", "<=", ">", ">=", "substr"].map String.toList then some (2, some 4)
  else if k = "reduce".toList then some (3, some 4)
  else if k ∈ ["!", "!!", "log"].map String.toList then some (1, some 2)
  else if k = "-".toList then some (1, some 3)
  else if k = "var".toList then some (0, some 3)
  else if k ∈ ["*", "max", "min", "and", "or"].map String.toList then some (1, none)
  else if k ∈ ["+", "cat", "merge", "missing", "if", "?:"].map String.toList then some (0, none)
  else none

/-- the counts a descriptor accepts, as a range `[lo, hi)` (`hi = none`: unbounded) -/
def rangeOf : Arity → Range
  | .none => (0, some 1)
  | .any => (0, none)
  | .unary => (1, some 2)
  | .exactly n => (n, some (n + 1))
  | .atLeast n => (n, none)
  | .variadic lo hi => (lo, some hi)

theorem isValidLen_range (a : Arity) (n : Nat) : a.isValidLen n = inRange (rangeOf a) n := by
  rw [Bool.eq_iff_iff]
  cases a <;> simp [Arity.isValidLen, rangeOf, inRange] <;> omega

/-- Over the tables regenerated from the source on this run: every entry's descriptor denotes exactly the
documented set of operand counts. -/
theorem tables_documented : ∀ e ∈ allEntries, documented e.key = some (rangeOf e.arity) := by
  decide +kernel

theorem documented_eq {k : Str} {kind : Kind} {ar : Arity} (h : lookupOp k = some (kind, ar)) :
    documented k = some (rangeOf ar) := by
  obtain ⟨e, he, rfl, rfl⟩ := lookupOp_eq_some h
  exact tables_documented e (tableOf_subset kind he)

/-- **Arity = documentation, for every operand count `n : ℕ`** (not only 0..6): the count is accepted by the
parse phase iff it is in the operator's documented set. -/
theorem arity_doc (k : Str) (kind : Kind) (ar : Arity) (h : lookupOp k = some (kind, ar)) (n : Nat) :
    ∃ r, documented k = some r ∧ ar.isValidLen n = inRange r n :=
  ⟨_, documented_eq h, isValidLen_range ar n⟩

/-- **Acceptance.** The parse phase accepts a bracketed operand list exactly when its length is valid for the
descriptor and (eager and data operators) every operand parses; lazy operators keep their operands raw. -/
theorem accept_eq (k : Str) (kind : Kind) (ar : Arity) (xs : List Json) (h : lookupOp k = some (kind, ar)) :
    check (.obj [(k, .arr xs)]) = (ar.isValidLen xs.length && (kind == .lazy || checkList xs)) :=
  check_op h (.arr xs)

/-- … and a bare operand when the descriptor can take one operand, as the code tests it -/
theorem check_bare (k : Str) (kind : Kind) (ar : Arity) (x : Json) (hx : ∀ xs, x ≠ .arr xs)
    (h : lookupOp k = some (kind, ar)) :
    check (.obj [(k, x)]) = (ar.canAcceptUnary && ar.isValidLen 1 && (kind == .lazy || check x)) := by
  rw [check_op h, ar.admits_of_not_arr hx, operands_of_not_arr hx, checkList, checkList, Bool.and_true]

/-- **Rejection.** A bracketed operand list whose length the descriptor does not accept is an error — not a
panic, no operand evaluated (no log line). -/
theorem reject_count (k : Str) (kind : Kind) (ar : Arity) (xs : List Json) (d : Json)
    (h : lookupOp k = some (kind, ar)) (hn : ar.isValidLen xs.length = false) :
    apply (.obj [(k, .arr xs)]) d = ⟨[], .err⟩ := by
  rw [apply, accept_eq k kind ar xs h, hn]
  rfl

/-- **Rejection of an unbracketed operand** where a single operand is not a documented count. -/
theorem reject_bare (k : Str) (kind : Kind) (ar : Arity) (x d : Json) (hx : ∀ xs, x ≠ .arr xs)
    (h : lookupOp k = some (kind, ar)) (hn : ar.isValidLen 1 = false) :
    apply (.obj [(k, x)]) d = ⟨[], .err⟩ := by
  rw [apply, check_bare k kind ar x hx h, hn, Bool.and_false]
  rfl

/-- over the regenerated tables, `can_accept_unary` agrees with "1 is a valid count" (the `AtLeast(n) => n >= 1`
oddity of the code is harmless for the descriptors actually in the tables) -/
theorem unary_consistent : ∀ e ∈ allEntries, e.arity.canAcceptUnary = e.arity.isValidLen 1 := by
  decide +kernel

/-- parse phase: `{op: x}` is accepted iff `{op: [x]}` is, for non-array `x` -/
theorem check_sugar (k : Str) (x : Json) (hx : ∀ xs, x ≠ .arr xs) :
    check (.obj [(k, x)]) = check (.obj [(k, .arr [x])]) := by
  cases hl : lookupOp k with
  | none => rw [check_unknown hl, check_unknown hl]
  | some p =>
    obtain ⟨kind, ar⟩ := p
    obtain ⟨e, he, -, rfl⟩ := lookupOp_eq_some hl
    rw [check_bare k kind _ x hx hl, accept_eq k kind _ [x] hl, unary_consistent e (tableOf_subset kind he), Bool.and_self,
      checkList, checkList, Bool.and_true]
    rfl

/-- **Unary sugar.** `{k: x}` means exactly `{k: [x]}`: for every recognised operator key `k`, every operand `x` that
is not an array and all data, the two spellings have the same outcome (value, or error when one operand is not a
documented count for `k` or the operand does not parse) and the same log lines.

(The key must be recognised: for an unrecognised key both spellings are *literals* and evaluate to themselves,
`unrecognised_sugar` — two different values.) -/
theorem unary_sugar (k : Str) (x d : Json) (hx : ∀ xs, x ≠ .arr xs) (hk : (lookupOp k).isSome = true) :
    apply (.obj [(k, x)]) d = apply (.obj [(k, .arr [x])]) d := by
  rw [apply, apply, check_sugar k x hx, Lemmas.C03.run_sugar k x d hx hk]

/-- the same, the key being given as one of the 35 documented names -/
theorem unary_sugar_documented (k : Str) (x d : Json) (hx : ∀ xs, x ≠ .arr xs) (hk : k ∈ documentedNames) :
    apply (.obj [(k, x)]) d = apply (.obj [(k, .arr [x])]) d :=
  unary_sugar k x d hx (by rw [lookup_iff]; simpa using hk)

/-- for an unrecognised key there is no sugar: both spellings are literals and come back as written -/
theorem unrecognised_sugar (k : Str) (x d : Json) (hk : lookupOp k = none) :
    apply (.obj [(k, x)]) d = ⟨[], .ok (.obj [(k, x)])⟩ ∧ apply (.obj [(k, .arr [x])]) d = ⟨[], .ok (.obj [(k, .arr [x])])⟩ := by
  have hc : documentedNames.contains k = false := by rw [← lookup_iff, hk]; rfl
  exact ⟨literal_id _ _ hc, literal_id _ _ hc⟩

/-- accepted ⇒ the operand count is one of the documented counts of `k` (for every `n : ℕ`) -/
theorem accept_documented (k : Str) (kind : Kind) (ar : Arity) (xs : List Json) (h : lookupOp k = some (kind, ar))
    (hc : check (.obj [(k, .arr xs)]) = true) : ∃ r, documented k = some r ∧ inRange r xs.length = true := by
  rw [accept_eq k kind ar xs h, Bool.and_eq_true, isValidLen_range] at hc
  exact ⟨_, documented_eq h, hc.1⟩

/-- conversely, when every operand parses (always the case for lazy operators, whose operands are kept raw, and for
literal operands), acceptance is *exactly* "the count is documented": surplus operands are never ignored, missing
ones never defaulted -/
theorem accept_iff_documented (k : Str) (kind : Kind) (ar : Arity) (xs : List Json) (h : lookupOp k = some (kind, ar))
    (hops : kind = .lazy ∨ checkList xs = true) :
    ∃ r, documented k = some r ∧ check (.obj [(k, .arr xs)]) = inRange r xs.length := by
  refine ⟨_, documented_eq h, ?_⟩
  rw [accept_eq k kind ar xs h, isValidLen_range]
  rcases hops with h | h <;> simp [h]

/-- the bare spelling is accepted exactly when one operand is a documented count (and the operand parses) -/
theorem accept_bare_eq (k : Str) (kind : Kind) (ar : Arity) (x : Json) (hx : ∀ xs, x ≠ .arr xs)
    (h : lookupOp k = some (kind, ar)) :
    check (.obj [(k, x)]) = (ar.isValidLen 1 && (kind == .lazy || check x)) := by
  rw [check_sugar k x hx, accept_eq k kind ar [x] h]
  simp [checkList]

/-- **Rejection, in terms of the documentation**: an operand count outside the documented set of `k` is an error
(no panic, no log line, no operand evaluated; surplus operands are not ignored, missing ones not defaulted) — for
every count `n : ℕ`. -/
theorem reject_undocumented (k : Str) (kind : Kind) (ar : Arity) (xs : List Json) (d : Json)
    (h : lookupOp k = some (kind, ar)) (r : Range) (hr : documented k = some r) (hn : inRange r xs.length = false) :
    apply (.obj [(k, .arr xs)]) d = ⟨[], .err⟩ := by
  cases hr.symm.trans (documented_eq h)
  exact reject_count k kind ar xs d h (by rw [isValidLen_range, hn])

/-! non-vacuity: the hypotheses are met by real entries -/
example : lookupOp "-".toList = some (.eager, .variadic 1 3) := lookupOp_iff.mpr (by decide +kernel)
example : (Arity.variadic 1 3).isValidLen 3 = false := by decide +kernel
example : documented "var".toList = some (0, some 3) := by decide +kernel

/-- `reject_count`, `accept_documented`: real operand lists on both sides of the limit -/
example : apply (.obj [("<".toList, .arr [.num (.pos 1), .num (.pos 2), .num (.pos 3), .num (.pos 4)])]) .null = ⟨[], .err⟩ := by decide +kernel
example : check (.obj [("<".toList, .arr [.num (.pos 1), .num (.pos 2), .num (.pos 3)])]) = true := by decide +kernel
/-- `unary_sugar`: hypotheses are met (`"a"` is not an array, `var`/`!`/`or`/`map` are recognised), both spellings agree -/
example : ∀ xs, Json.str "a".toList ≠ .arr xs := by intro xs h; cases h
example : (lookupOp "var".toList).isSome = true ∧ (lookupOp "or".toList).isSome = true ∧ (lookupOp "map".toList).isSome = true := by
  rw [lookup_var, lookup_or, lookup_map]; exact ⟨rfl, rfl, rfl⟩
example : apply (.obj [("var".toList, .str "a".toList)]) (.obj [("a".toList, .num (.pos 7))]) = ⟨[], .ok (.num (.pos 7))⟩
    ∧ apply (.obj [("var".toList, .arr [.str "a".toList])]) (.obj [("a".toList, .num (.pos 7))]) = ⟨[], .ok (.num (.pos 7))⟩ := by decide +kernel
example : apply (.obj [("log".toList, .str "a".toList)]) .null = ⟨[.str "a".toList], .ok (.str "a".toList)⟩
    ∧ apply (.obj [("log".toList, .arr [.str "a".toList])]) .null = ⟨[.str "a".toList], .ok (.str "a".toList)⟩ := by decide +kernel
example : apply (.obj [("map".toList, .str "a".toList)]) .null = ⟨[], .err⟩
    ∧ apply (.obj [("map".toList, .arr [.str "a".toList])]) .null = ⟨[], .err⟩ := by decide +kernel
/-- `unrecognised_sugar` is not vacuous: a key no table holds -/
example : lookupOp "Var".toList = none := by decide +kernel

example : documented "<".toList = some (2, some 4) ∧ inRange (2, some 4) 4 = false ∧ inRange (2, some 4) 64 = false := by decide +kernel
end JL.Props.C03
