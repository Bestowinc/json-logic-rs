import JL.Lemmas.RoundTrip
import JL.Lemmas.RoundTripSer
import JL.Wrap
/-!
# C18 — what the `jsonlogic` command prints for a result is one line of JSON text

`println!("{}", result)` writes `Value::to_string` = `Json.ser` followed by a newline. For the second invocation of
a pipe to receive exactly that value, the text itself must not contain a line break (or any other raw control
character, which JSON forbids inside strings), and the texts of numbers must denote the numbers they were printed
from. The first is shown here for every value, with no hypothesis; the second for every well-formed number
(`Num.WF`: `u64`, negative `i64`, finite `f64` on the binary64 grid).

Not covered (outside the crate, enters `JL.Wrap.cli` as the parameter `parse`): `serde_json::from_str`. NOTE: the
crate builds `serde_json` without its `float_roundtrip` feature, so that parser does not promise to return the
nearest double for every float text; `number_text_denotes` says what a correctly rounding reader gets.
-/
namespace JL.Props.C18
open JL Json JL.F64 JL.Wrap JL.Lemmas.RoundTrip

/-- **one line**: the serialisation of any value contains no character below U+0020 — no LF, CR, TAB, NUL, … -/
theorem ser_one_line (v : Json) : ∀ c ∈ Json.ser v, 32 ≤ c.toNat := ser_printable v

/-- in particular neither LF nor CR, which would end the line early -/
theorem ser_no_newline (v : Json) : '\n' ∉ Json.ser v ∧ '\r' ∉ Json.ser v :=
  ⟨printable_not_mem (ser_printable v) (by decide), printable_not_mem (ser_printable v) (by decide)⟩

/-- a string is written between two `"`, each character through `escapeChar` -/
theorem serStr_shape (s : Str) : Json.serStr s = '"' :: (s.flatMap Json.escapeChar) ++ ['"'] := rfl

/-- `serStr` never emits a raw newline (nor any other control character) -/
theorem serStr_no_newline (s : Str) : '\n' ∉ Json.serStr s := printable_not_mem (serStr_printable s) (by decide)

/-- … the statement for a string alone, as `ser_one_line` -/
theorem serStr_one_line (s : Str) : ∀ c ∈ Json.serStr s, 32 ≤ c.toNat := serStr_printable s

/-- exactly `"`, `\` and the control characters below U+0020 are escaped; every other character is written as is -/
theorem escape_iff (c : Char) : Json.escapeChar c = [c] ↔ (c ≠ '"' ∧ c ≠ '\\' ∧ 32 ≤ c.toNat) := by
  refine ⟨fun h => ?_, fun ⟨h1, h2, h3⟩ => escapeChar_plain c h1 h2 h3⟩
  -- an escaped character would make `[c]` an escape sequence, which has two characters at least
  have hlen : ¬ IsEscape [c] := fun e => absurd e.2.1 (Nat.lt_irrefl 1)
  rw [← h] at hlen
  exact ⟨fun e => hlen (escapeChar_escaped c (Or.inl e)), fun e => hlen (escapeChar_escaped c (Or.inr (Or.inl e))),
    Nat.le_of_not_lt fun e => hlen (escapeChar_escaped c (Or.inr (Or.inr e)))⟩

/-- an escaped character becomes a backslash followed by at least one more character -/
theorem escape_shape (c : Char) (h : c = '"' ∨ c = '\\' ∨ c.toNat < 32) :
    ∃ x rest, Json.escapeChar c = '\\' :: x :: rest := by
  obtain ⟨h1, h2, -⟩ := escapeChar_escaped c h
  match Json.escapeChar c, h1, h2 with
  | _ :: x :: rest, h1, _ => cases h1; exact ⟨x, rest, rfl⟩

/-- the text of a number is made of digits and `- + . e` (`NaN`/`inf` spellings never arise: floats are finite) -/
theorem number_text_one_line (x : Num) : ∀ c ∈ x.toStr, 32 ≤ c.toNat := numToStr_printable x

/-- the text of a number denotes that number: a reader that rounds the decimal correctly (JS `Number`, Rust
`f64::from_str`) gets back `x.as_f64()` exactly — integers of any size, and every finite double -/
theorem number_text_denotes (x : Num) (hx : Num.WF x) : JsOp.strToNumber x.toStr = some x.toF64 :=
  (readsAs_numToStr x hx).1

/-- every line the command writes to standard output (the `log` lines and the result line) is a single line -/
theorem cli_lines_one_line (parse : Str → Option Json) (logic : Str) (arg : Option Str) (stdin : Str) :
    ∀ line ∈ (cli parse Json.ser logic arg stdin).stdout, ∀ c ∈ line, 32 ≤ c.toNat := by
  intro line hl
  unfold cli at hl
  split at hl
  · cases hl
  · split at hl
    · cases hl
    · -- every line is the serialisation of a value: a logged one, or the result
      simp only [cliEval] at hl
      split at hl
      · rcases List.mem_append.mp hl with h | h
        · obtain ⟨w, -, rfl⟩ := List.mem_map.mp h; exact ser_one_line w
        · rw [List.mem_singleton.mp h]; exact ser_one_line _
      · obtain ⟨w, -, rfl⟩ := List.mem_map.mp hl; exact ser_one_line w

/-! ## spot checks -/
example : Json.ser (.str "a\nb\t\"c\"\\".toList) = "\"a\\nb\\t\\\"c\\\"\\\\\"".toList := by decide +kernel
example : Json.ser (.str [Char.ofNat 1, Char.ofNat 31, Char.ofNat 127]) =
    ("\"\\u0001\\u001f".toList ++ [Char.ofNat 127, '"']) := by decide +kernel
example : Json.escapeChar 'a' = ['a'] := by decide
example : Json.escapeChar (Char.ofNat 0x2028) = [Char.ofNat 0x2028] := by decide +kernel
example : Json.ser (.arr [.num (.pos 1), .obj [("k\n".toList, .num (.flt (F64.ofBits 0x3FB999999999999A)))]]) =
    "[1,{\"k\\n\":0.1}]".toList := by decide +kernel
example : Num.WF (.flt (F64.ofBits 0x3FB999999999999A)) := by decide +kernel

end JL.Props.C18
