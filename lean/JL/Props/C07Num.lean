import JL.Lemmas.StrNumRadix
/-!
# C07 — the string-to-number rule used by `==` / `!=` (and by `<`, `-`, `/`, `%`, `min`, `max`) is
ECMA-262 `StringToNumber`

`JL.Spec.ES.stringToNumber` (JL/Spec/ESNum.lean) is written from ECMA-262 7.1.4.1.1 and the
StringNumericLiteral grammar; `JsOp.strToNumber` models `js_op::str_to_number`.
-/
namespace JL.Props.C07
open JL Json JL.Spec

/-- `str_to_number` is `StringToNumber` on every string (no length bound, every radix literal included):
StrWhiteSpace stripped at both ends; empty ↦ +0; `0x/0o/0b` integer literals (unsigned, at least one digit)
↦ the exact integer rounded once to nearest-even; optional sign, then `Infinity` in exactly that spelling or
a StrUnsignedDecimalLiteral covering the whole text ↦ its mathematical value rounded once; anything else
NaN (`none`). -/
theorem str_to_number_es (s : Str) : JsOp.strToNumber s = ES.stringToNumber s :=
  JL.Lemmas.StrNum.strToNumber_eq s

/-- `to_number` of a string value is `StringToNumber` of its text -/
theorem to_number_str (s : Str) : JsOp.toNumber (.str s) = ES.stringToNumber s := by
  rw [← str_to_number_es]; rfl

/-- a number equals a string iff the string's `StringToNumber` is a (non-NaN) double equal to it -/
theorem num_eq_str (x : Num) (y : Str) :
    JsOp.abstractEq (.num x) (.str y) =
      match ES.stringToNumber y with
      | some yn => F64.eq x.toF64 yn
      | none => false := by
  simp only [JsOp.abstractEq, JsOp.eqNoBool, JsOp.eqPrim, str_to_number_es]
  cases ES.stringToNumber _ <;> rfl

/-- … and with the string on the left -/
theorem str_eq_num (x : Str) (y : Num) :
    JsOp.abstractEq (.str x) (.num y) =
      match ES.stringToNumber x with
      | some xn => F64.eq xn y.toF64
      | none => false := by
  simp only [JsOp.abstractEq, JsOp.eqNoBool, JsOp.eqPrim, str_to_number_es]
  cases ES.stringToNumber _ <;> rfl

/-- surrounding whitespace is ignored: a text made only of StrWhiteSpaceChar is +0 … -/
theorem whitespace_only_zero (s : Str) (h : ∀ c ∈ s, ES.isStrWhiteSpaceChar c = true) :
    ES.stringToNumber s = some (F64.fin false 0) := by
  have h1 : ES.skipWhiteSpace s = [] := by
    induction s with
    | nil => rfl
    | cons c cs ih =>
      simp only [ES.skipWhiteSpace, h c (by simp), if_true]
      exact ih (fun d hd => h d (by simp [hd]))
  simp [ES.stringToNumber, ES.strip, h1, ES.skipWhiteSpace]

/-- … also for `str_to_number` itself -/
theorem whitespace_only_zero_model (s : Str) (h : ∀ c ∈ s, ES.isStrWhiteSpaceChar c = true) :
    JsOp.strToNumber s = some (F64.fin false 0) := by
  rw [str_to_number_es]; exact whitespace_only_zero s h

/-- … and the hypothesis is met by real inputs -/
example : ∀ c ∈ " \t\n\r ".toList, ES.isStrWhiteSpaceChar c = true := by decide +kernel

/-- "" is 0 -/
example : ES.stringToNumber [] = some (F64.fin false 0) := by decide +kernel
example : JsOp.strToNumber [] = some (F64.fin false 0) := by decide +kernel
example : ES.stringToNumber " 1 ".toList = some (F64.ofNat 1) := by decide +kernel
/-- only `Infinity` spelled that way -/
example : ES.stringToNumber "Infinity".toList = some (F64.inf false) := by decide +kernel
example : ES.stringToNumber "-Infinity".toList = some (F64.inf true) := by decide +kernel
example : ES.stringToNumber "inf".toList = none := by decide +kernel
example : ES.stringToNumber "infinity".toList = none := by decide +kernel
example : ES.stringToNumber "INFINITY".toList = none := by decide +kernel
example : ES.stringToNumber "nan".toList = none := by decide +kernel
example : JsOp.strToNumber "inf".toList = none := by decide +kernel
example : JsOp.strToNumber "infinity".toList = none := by decide +kernel
example : JsOp.strToNumber "INFINITY".toList = none := by decide +kernel
/-- hex / octal / binary prefixes honoured, unsigned only -/
example : ES.stringToNumber "0x10".toList = some (F64.ofNat 16) := by decide +kernel
example : ES.stringToNumber "0o10".toList = some (F64.ofNat 8) := by decide +kernel
example : ES.stringToNumber "0b10".toList = some (F64.ofNat 2) := by decide +kernel
example : ES.stringToNumber "-0x10".toList = none := by decide +kernel
example : JsOp.strToNumber "-0x10".toList = none := by decide +kernel
example : JsOp.strToNumber "0x10".toList = some (F64.ofNat 16) := by decide +kernel
/-- a radix literal longer than 60 bits: 2^64 + 1 rounds to 2^64 (bits are shifted out, sticky bit set) -/
example : JsOp.strToNumber "0x10000000000000001".toList = some (F64.ofNat (2 ^ 64)) := by decide +kernel
example : ES.stringToNumber "0x10000000000000001".toList = some (F64.ofNat (2 ^ 64)) := by decide +kernel
/-- anything else is non-numeric for `Number` ("12px" is NaN here, while `parseFloat` reads 12) -/
example : ES.stringToNumber "12px".toList = none := by decide +kernel
example : JsOp.strToNumber "12px".toList = none := by decide +kernel
example : ES.parseFloat "12px".toList = some (F64.ofNat 12) := by decide +kernel
example : ES.stringToNumber "1-2".toList = none := by decide +kernel
example : ES.parseFloat "1-2".toList = some (F64.ofNat 1) := by decide +kernel
/-- operator level: `" 1 " == 1`, `"0x10" == 16`, `"" == 0`, `"1e3" == 1000`, but `"12px" != 12` -/
example : JsOp.abstractEq (.str " 1 ".toList) (.num (.pos 1)) = true := by decide +kernel
example : JsOp.abstractEq (.str "0x10".toList) (.num (.pos 16)) = true := by decide +kernel
example : JsOp.abstractEq (.str "".toList) (.num (.pos 0)) = true := by decide +kernel
example : JsOp.abstractEq (.str "1e3".toList) (.num (.pos 1000)) = true := by decide +kernel
example : JsOp.abstractEq (.str "12px".toList) (.num (.pos 12)) = false := by decide +kernel

end JL.Props.C07
