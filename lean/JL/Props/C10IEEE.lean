import JL.Lemmas.IEEE
import JL.Lemmas.C10
/-!
# C10 — the arithmetic of the model IS IEEE-754 binary64 arithmetic (roundTiesToEven)

In `JL/F64.lean` every operation is *defined* as "exact rational result, then `roundUnits`". Here
`roundUnits` is proved equal to the DECLARATIVE IEEE-754 rounding of `JL/Spec/IEEE.lean`
(`IsNearestEven`, `Rounds`): the result is a representable magnitude (53-bit significand times a power of
two, exponent unbounded above), no representable magnitude is nearer to the exact value, of two equally
near ones the one with the even significand is taken, and a rounded magnitude `≥ 2^1024` becomes `±∞`.
That specification determines the result uniquely, so `roundUnits` is THE IEEE rounding, and `+ - * /`,
`u64/i64 → f64` and decimal → `f64` return exactly the IEEE-754 double of the exact real result.

Units: a finite double `fin neg k` is `(-1)^neg · k · 2^-1074`, `S = 2^1074` units are `1.0`, `OVF = 2^2098` units are `2^1024`.
-/
namespace JL.Props.C10
open JL F64 JL.Spec.IEEE JL.Lemmas.IEEE

/-! ## the specification is consistent with the model's notion of a finite double -/

/-- the finite doubles are the unbounded-exponent grid below `2^1024` -/
theorem grid_iff_gridU (k : Nat) : Grid k ↔ GridU k ∧ k < OVF := by
  rw [JL.Lemmas.IEEE.gridU_iff_ulp_dvd, ulp_eq, ← F64.grid_iff]; exact And.comm

/-- `GridU` in the style of `F64.OnGrid`: `k` is a multiple of the ulp of its binade -/
theorem gridU_iff_ulp_dvd (k : Nat) : GridU k ↔ ulp k ∣ k := JL.Lemmas.IEEE.gridU_iff_ulp_dvd k

/-- `|a - b|` really is the absolute value of the integer difference -/
theorem absDiff_eq (a b : Nat) : (absDiff a b : Int) = ((a : Int) - (b : Int)).natAbs := by
  unfold absDiff; omega

/-- the significand of a grid point in canonical form `m · 2^e` (`e = 0` — subnormal or first binades — or top
bit of `m` set) is `m`; so `sigEven` is "the last significand bit is 0" -/
theorem sig_of_canonical (m e : Nat) (hm : m < 2 ^ 53) (hc : e = 0 ∨ 2 ^ 52 ≤ m) : sig (m * 2 ^ e) = m :=
  sig_canon m e hm hc

/-! ## `roundUnits` is round-to-nearest, ties-to-even -/

/-- existence and uniqueness: every non-negative rational has exactly one nearest-even grid point -/
theorem nearestEven_exists_unique (num den : Nat) (hd : 0 < den) :
    ∃ k, IsNearestEven num den k ∧ ∀ k', IsNearestEven num den k' → k' = k :=
  ⟨roundK num den, roundK_nearest num den hd, fun k' => (nearestEven_iff num den k' hd).mp⟩

/-- `roundUnits` returns `fin neg k` exactly when `k` is the nearest-even representable magnitude and is below `2^1024` -/
theorem roundUnits_fin_iff (neg : Bool) (num den k : Nat) (hd : 0 < den) :
    roundUnits neg num den = fin neg k ↔ IsNearestEven num den k ∧ k < OVF := by
  rw [roundUnits_eq_fin_iff, nearestEven_iff num den k hd]

/-- overflow as in IEEE-754 §7.4: the result is `±∞` iff the magnitude rounded with unbounded exponent (it is unique)
is `≥ 2^1024` -/
theorem roundUnits_inf_iff_forall (neg : Bool) (num den : Nat) (hd : 0 < den) :
    roundUnits neg num den = inf neg ↔ ∀ k, IsNearestEven num den k → OVF ≤ k := by
  rw [roundUnits_eq_inf_iff]
  exact ⟨fun h k hk => (nearestEven_iff num den k hd).mp hk ▸ h, fun h => h _ (roundK_nearest num den hd)⟩

/-- the overflow threshold in closed form: `±∞` iff the exact magnitude is at least `2^1024 - 2^970`
(half an ulp above the largest finite double; the tie goes to the even significand, i.e. to `2^1024`) -/
theorem roundUnits_inf_threshold (neg : Bool) (num den : Nat) (hd : 0 < den) :
    roundUnits neg num den = inf neg ↔ (OVF - 2 ^ 2044) * den ≤ num :=
  JL.Lemmas.IEEE.roundUnits_eq_inf_iff_threshold neg num den hd

/-- `roundUnits` never produces NaN, and keeps the sign it is given -/
theorem roundUnits_cases (neg : Bool) (num den : Nat) :
    roundUnits neg num den = inf neg ∨ ∃ k, roundUnits neg num den = fin neg k := by
  rw [roundUnits_eq]; split
  · exact Or.inl rfl
  · exact Or.inr ⟨_, rfl⟩

/-- **`roundUnits` is THE IEEE-754 rounding**: a double satisfies the declarative specification `Rounds`
iff it is the value `roundUnits` computes -/
theorem roundUnits_is_IEEE (neg : Bool) (num den : Nat) (hd : 0 < den) (r : F64) :
    Rounds neg num den r ↔ r = roundUnits neg num den := by
  rw [roundUnits_eq]
  exact ⟨fun ⟨k, hk, hr⟩ => (nearestEven_iff num den k hd).mp hk ▸ hr, fun h => ⟨_, roundK_nearest num den hd, h⟩⟩

theorem roundUnits_rounds (neg : Bool) (num den : Nat) (hd : 0 < den) :
    Rounds neg num den (roundUnits neg num den) := (roundUnits_is_IEEE neg num den hd _).mpr rfl

/-- the specification determines the result -/
theorem rounds_unique (neg : Bool) (num den : Nat) (hd : 0 < den) (r r' : F64)
    (h : Rounds neg num den r) (h' : Rounds neg num den r') : r = r' := by
  rw [(roundUnits_is_IEEE neg num den hd r).mp h, (roundUnits_is_IEEE neg num den hd r').mp h']

/-- a result of the specification is a well-formed double, never NaN -/
theorem rounds_wf (neg : Bool) (num den : Nat) (hd : 0 < den) (r : F64) (h : Rounds neg num den r) :
    WF r ∧ r ≠ nan := by
  rw [(roundUnits_is_IEEE neg num den hd r).mp h]
  refine ⟨by with_reducible exact roundUnits_WF _ _ _, ?_⟩
  rcases roundUnits_cases neg num den with h | ⟨k, h⟩ <;> rw [h] <;> intro c <;> cases c

/-- half-ulp error bound: `|num/den - k| ≤ ulp(k)/2` for the rounded magnitude `k` (before the overflow cut) -/
theorem roundUnits_half_ulp (neg : Bool) (num den k : Nat) (hd : 0 < den)
    (h : roundUnits neg num den = fin neg k) : 2 * err num den k ≤ ulp k * den := by
  rw [((roundUnits_eq_fin_iff neg num den k).mp h).1]
  exact roundK_half_ulp num den hd

/-- the result depends only on the rational `num/den`, not on its representation -/
theorem roundUnits_rational (neg : Bool) (num den num' den' : Nat) (hd : 0 < den) (hd' : 0 < den')
    (h : num * den' = num' * den) : roundUnits neg num den = roundUnits neg num' den' := by
  rw [roundUnits_eq, roundUnits_eq, roundK_congr num den num' den' hd hd' h]

/-- rounding is monotone: `num/den ≤ num'/den'` implies `round(num/den) ≤ round(num'/den')` (positive sign) -/
theorem roundUnits_mono (num den num' den' : Nat) (hd : 0 < den) (hd' : 0 < den')
    (h : num * den' ≤ num' * den) :
    F64.le (roundUnits false num den) (roundUnits false num' den') = true := by
  have hm := roundK_mono num den num' den' hd hd' h
  rw [roundUnits_eq, roundUnits_eq]
  -- `roundK` is monotone (`hm`); the four combinations of overflow on the two sides
  split <;> split <;> simp [F64.le] <;> omega

/-- … and antitone on the negative side -/
theorem roundUnits_mono_neg (num den num' den' : Nat) (hd : 0 < den) (hd' : 0 < den')
    (h : num * den' ≤ num' * den) :
    F64.le (roundUnits true num' den') (roundUnits true num den) = true := by
  have hm := roundK_mono num den num' den' hd hd' h
  rw [roundUnits_eq, roundUnits_eq]
  split <;> split <;> simp [F64.le] <;> omega

/-- exactly representable values are not changed (`F64.roundUnits_one`), restated with the spec -/
theorem rounds_exact (neg : Bool) (k : Nat) (hk : Grid k) : Rounds neg k 1 (fin neg k) :=
  (roundUnits_is_IEEE neg k 1 (by decide) _).mpr (roundUnits_one neg k hk).symm

/-! ## the operators return the IEEE-754 double of the exact real result

`fin a x` denotes `(-1)^a · x/S` (real number, `S` units = 1.0). Exact results, in units:
sum `sval a x + sval b y`; product `x·y/S`; quotient `x·S/y`. No hypothesis on the operands is needed
(for well-formed operands see `F64.add_WF` … in `Lemmas/C10`). -/

/-- `sval` is `Spec.IEEE.sval` here, sign and magnitude as two arguments; it is the order key of `Lemmas/F64Order` -/
theorem sval_eq_order (c : Bool) (n : Nat) : sval c n = Lemmas.F64Order.sval (fin c n) := rfl

theorem sval_add (c : Bool) (x y : Nat) : sval c (x + y) = sval c x + sval c y := by
  cases c <;> simp [sval] <;> omega

theorem sval_sub (c : Bool) {x y : Nat} (h : y ≤ x) : sval c (x - y) = sval c x + sval (!c) y := by
  cases c <;> simp [sval] <;> omega

theorem sval_not (c : Bool) (n : Nat) : sval (!c) n = -sval c n := by
  cases c <;> simp [sval]

theorem sval_eq_zero {c : Bool} {n : Nat} : sval c n = 0 ↔ n = 0 := by
  cases c <;> simp [sval]

/-- a non-zero exact result `s`, given as sign and magnitude, is rounded by `roundUnits` of that sign and magnitude -/
theorem rounds_of_sval {c : Bool} {n : Nat} {s : Int} (hs : sval c n = s) (hne : s ≠ 0) :
    Rounds (decide (s < 0)) s.natAbs 1 (roundUnits c n 1) := by
  have : decide (s < 0) = c ∧ s.natAbs = n := by
    subst hs; cases c <;> simp [sval] at hne ⊢ <;> omega
  rw [this.1, this.2]
  exact roundUnits_rounds c n 1 (by decide)

/-- **addition**: the IEEE-754 rounding of the exact sum; an exact zero sum is `+0`, except `(-0) + (-0) = -0`
(IEEE-754 §6.3) -/
theorem add_fin_IEEE (a b : Bool) (x y : Nat) :
    (sval a x + sval b y ≠ 0 →
      Rounds (decide (sval a x + sval b y < 0)) (sval a x + sval b y).natAbs 1 (add (fin a x) (fin b y))) ∧
    (sval a x + sval b y = 0 → add (fin a x) (fin b y) = fin (a && b) 0) := by
  -- every branch of `add` rounds a sign and magnitude whose `sval` is the exact sum
  simp only [add]
  split
  · rename_i hab
    rw [beq_iff_eq.mp hab, Bool.and_self, ← sval_add]
    refine ⟨rounds_of_sval rfl, fun h => ?_⟩
    rw [sval_eq_zero.mp h]; exact roundUnits_tiny _ 0 1 (by decide)
  · rename_i hab
    have hb : b = !a := by cases a <;> cases b <;> simp at hab ⊢
    subst hb
    split
    · rename_i hxy
      rw [beq_iff_eq.mp hxy, Bool.and_not_self, ← sval_sub a (Nat.le_refl y), Nat.sub_self]
      exact ⟨fun h => absurd (sval_eq_zero.mpr rfl) h, fun _ => rfl⟩
    · rename_i hxy
      have hxy : x ≠ y := by simpa using hxy
      split
      · rename_i hgt
        rw [← sval_sub a (Nat.le_of_lt hgt)]
        exact ⟨rounds_of_sval rfl, fun h => absurd (sval_eq_zero.mp h) (by omega)⟩
      · rename_i hgt
        have e := sval_sub (!a) (Nat.le_of_not_lt hgt)
        rw [Bool.not_not, Int.add_comm] at e
        rw [← e]
        exact ⟨rounds_of_sval rfl, fun h => absurd (sval_eq_zero.mp h) (by omega)⟩

/-- **subtraction** is addition of the negated operand: the rounding of the exact difference; an exact zero
difference is `+0`, except `(-0) - (+0) = -0` -/
theorem sub_fin_IEEE (a b : Bool) (x y : Nat) :
    (sval a x - sval b y ≠ 0 →
      Rounds (decide (sval a x - sval b y < 0)) (sval a x - sval b y).natAbs 1 (sub (fin a x) (fin b y))) ∧
    (sval a x - sval b y = 0 → sub (fin a x) (fin b y) = fin (a && !b) 0) := by
  rw [Int.sub_eq_add_neg, ← sval_not]
  exact add_fin_IEEE a (!b) x y

/-- **multiplication**: the rounding of the exact product `(x/S)·(y/S) = (x·y/S)/S`, with the XOR of the signs
(also when the product is zero) -/
theorem mul_fin_IEEE (a b : Bool) (x y : Nat) :
    Rounds (a != b) (x * y) S (mul (fin a x) (fin b y)) :=
  roundUnits_rounds _ _ _ S_pos

/-- **division** by a non-zero double: the rounding of the exact quotient `(x/S)/(y/S) = (x·S/y)/S` -/
theorem div_fin_IEEE (a b : Bool) (x y : Nat) (hy : y ≠ 0) :
    Rounds (a != b) (x * S) y (div (fin a x) (fin b y)) := by
  have : (y == 0) = false := by simp [hy]
  simp only [div, this, Bool.false_eq_true, if_false]
  exact roundUnits_rounds _ _ _ (Nat.pos_of_ne_zero hy)

/-- division by zero: `0/0 = NaN`, otherwise `±∞` with the XOR of the signs (IEEE-754 §7.2, §7.3) -/
theorem div_fin_zero (a b : Bool) (x : Nat) :
    div (fin a x) (fin b 0) = if x = 0 then nan else inf (a != b) := by
  simp [div]

/-- **`u64 → f64`** (`n as f64`): the rounding of the integer `n` -/
theorem ofNat_IEEE (n : Nat) : Rounds false (n * S) 1 (ofNat n) := roundUnits_rounds _ _ _ (by decide)

/-- **`i64 → f64`** -/
theorem ofInt_IEEE (i : Int) : Rounds (decide (i < 0)) (i.natAbs * S) 1 (ofInt i) :=
  roundUnits_rounds _ _ _ (by decide)

/-- **decimal text → `f64`** (`f64::from_str`, JSON number literals): `ofDecimal neg d e10` is the IEEE-754 rounding
of the exact decimal value `d · 10^e10` (as the rational `d·10^max(e10,0) / 10^max(-e10,0)`), for EVERY `d`, `e10`:
the model's shortcuts (`e10 > 400 ↦ ±∞`, `e10 + #digits < -400 ↦ ±0`) are proved to agree with the rounding. -/
theorem ofDecimal_IEEE (neg : Bool) (d : Nat) (e10 : Int) :
    Rounds neg (d * 10 ^ e10.toNat * S) (10 ^ (-e10).toNat) (ofDecimal neg d e10) :=
  (roundUnits_is_IEEE _ _ _ (Nat.pow_pos (by decide)) _).mpr (ofDecimal_eq_roundUnits neg d e10)

/-- **remainder** (`%`, C `fmod`) is exact — no rounding: the result is the representable `x mod y` with the
sign of the dividend -/
theorem rem_exact (a b : Bool) (x y : Nat) (hx : Grid x) (hy : Grid y) (hy0 : y ≠ 0) :
    ∃ r, rem (fin a x) (fin b y) = fin a r ∧ Grid r ∧ r < y ∧ ∃ n, x = n * y + r :=
  ⟨x % y, rem_fin a b x y hy0, onGrid_mod hx hy hy0, Nat.mod_lt _ (Nat.pos_of_ne_zero hy0),
    x / y, by rw [Nat.mul_comm]; exact (Nat.div_add_mod x y).symm⟩

/-! ## examples (closed evaluator terms) -/

/-- 0.1 + 0.2 = 0.30000000000000004 ≠ 0.3 -/
example : add (ofDecimal false 1 (-1)) (ofDecimal false 2 (-1)) = ofDecimal false 30000000000000004 (-17) := by
  decide +kernel
example : add (ofDecimal false 1 (-1)) (ofDecimal false 2 (-1)) ≠ ofDecimal false 3 (-1) := by decide +kernel
/-- 2^53 + 1 = 2^53 (tie, even significand) ; 2^53 + 3 is the tie between 2^53+2 (odd) and 2^53+4 (even) -/
example : add (ofNat (2 ^ 53)) (ofNat 1) = ofNat (2 ^ 53) := by decide +kernel
example : ofNat (2 ^ 53 + 1) = ofNat (2 ^ 53) := by decide +kernel
example : ofNat (2 ^ 53 + 3) = ofNat (2 ^ 53 + 4) := by decide +kernel
example : add (ofNat (2 ^ 53 + 2)) (ofNat 1) = ofNat (2 ^ 53 + 4) := by decide +kernel
example : sigEven (2 ^ 53 * S) ∧ ¬ sigEven ((2 ^ 53 + 2) * S) ∧ sigEven ((2 ^ 53 + 4) * S) := by decide +kernel
/-- subnormals: 5e-324 / 2 = 0 (tie between 0 and 1 unit, 0 is even); 3 units / 2 = 2 units (tie 1 | 2) -/
example : div (fin false 1) (ofNat 2) = fin false 0 := by decide +kernel
example : div (ofDecimal false 5 (-324)) (ofNat 2) = fin false 0 := by decide +kernel
example : div (fin true 3) (ofNat 2) = fin true 2 := by decide +kernel
/-- overflow: 1e200 · 1e200 = ∞; largest finite + 2^970 (half an ulp, tie → even = 2^1024) = ∞;
with the next double below 2^970 instead, the sum stays finite -/
example : mul (ofDecimal false 1 200) (ofDecimal false 1 200) = inf false := by decide +kernel
example : add (fin false (OVF - 2 ^ 2045)) (fin false (2 ^ 2044)) = inf false := by decide +kernel
example : add (fin false (OVF - 2 ^ 2045)) (fin false (2 ^ 2044 - 2 ^ 1991)) = fin false (OVF - 2 ^ 2045) := by
  decide +kernel
example : OnGrid (OVF - 2 ^ 2045) ∧ OnGrid (2 ^ 2044 - 2 ^ 1991) := by decide +kernel
/-- signed zeros: x − x = +0, (−0) + (−0) = −0, (−0) · 5 = −0 -/
example : sub (ofNat 7) (ofNat 7) = fin false 0 := by decide +kernel
example : add (fin true 0) (fin true 0) = fin true 0 := by decide +kernel
example : mul (fin true 0) (ofNat 5) = fin true 0 := by decide +kernel
/-- the hypotheses `0 < den`, `y ≠ 0`, `Grid x` are met by ordinary inputs -/
example : (0 : Nat) < S ∧ Grid S ∧ Grid (3 * S) ∧ (3 * S ≠ 0) := by decide +kernel
/-- decimal literals beyond the clamps: 1e401 = ∞ (also via the long way), 1e-401 = 0, 4.9e-324 = 1 unit -/
example : ofDecimal false 1 401 = inf false ∧ roundUnits false (10 ^ 401 * S) 1 = inf false := by decide +kernel
example : ofDecimal true 1 (-401) = fin true 0 ∧ roundUnits true S (10 ^ 401) = fin true 0 := by decide +kernel
example : ofDecimal false 49 (-325) = fin false 1 := by decide +kernel

end JL.Props.C10
