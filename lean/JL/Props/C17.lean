import JL.Lemmas.C04
import JL.Props.C01
/-!
# C17 — `apply` is a pure, stateless, thread-safe function of (rule, data)

In the model `apply` is a function: there is no state to thread. What the theorems add is the statement for
*histories* (each call's result equals its result in isolation, whatever came before) and the exact effect of `log`.
-/
namespace JL.Props.C17
open JL Json

/-- a call of a history -/
structure Call where
  rule : Json
  data : Json

/-- running a history with the only state the implementation could legitimately have: none -/
def runHistory : Unit → List Call → List (M Json)
  | _, [] => []
  | s, c :: cs => apply c.rule c.data :: runHistory s cs

/-- every call of every finite history returns its isolated result -/
theorem hist_refines (calls : List Call) : runHistory () calls = calls.map (fun c => apply c.rule c.data) := by
  induction calls with
  | nil => rfl
  | cons c cs ih => simp [runHistory, ih]

/-- hence invariance under permutation, repetition and interleaving of calls -/
theorem hist_perm (cs₁ cs₂ : List Call) (h : cs₁.Perm cs₂) : (runHistory () cs₁).Perm (runHistory () cs₂) := by
  rw [hist_refines, hist_refines]; exact h.map _

/-- `log` writes exactly one line — its operand — and returns the operand unchanged -/
theorem log_effect (v : Json) : execEager "log".toList [v] = ⟨[v], .ok v⟩ :=
  execEager_log [v]

example : apply (.obj [("log".toList, .arr [.str "x".toList])]) .null = ⟨[.str "x".toList], .ok (.str "x".toList)⟩ := by decide +kernel

/-- **The only externally visible effect is `log`**: no other eager operator and no data operator writes a line, whatever its
operands; and `log` writes exactly one line holding its operand. (The lazy operators write nothing of their own either: their
traces are concatenations of their evaluated operands' traces — `JL.Props.C05`, `C13`, `C14` state each unfolding.) -/
theorem only_log_writes (k : Str) (vs : List Json) (h : k ≠ "log".toList) : (execEager k vs).logs = [] :=
  (execEager_logs k vs).trans (if_neg h)

theorem data_ops_write_nothing (k : Str) (d : Json) (vs : List Json) : (execData k d vs).logs = [] :=
  JL.execData_logs k d vs

/-- a value that is not a single-key object evaluates silently (single-key objects with an unknown key: `C02.literal_id`) -/
theorem literal_silent (r d : Json) (hr : ∀ k v, r ≠ .obj [(k, v)]) : (apply r d).logs = [] := by
  rw [apply_of_check (check_literal hr), run_literal hr]

/-- every call has an outcome and that outcome is a function of (rule, data) alone: two calls with equal arguments agree -/
theorem deterministic (r₁ d₁ r₂ d₂ : Json) (hr : r₁ = r₂) (hd : d₁ = d₂) : apply r₁ d₁ = apply r₂ d₂ := by subst hr; subst hd; rfl

/-- and it is always a value or an error value (never a panic), so a history can always continue: `JL.Props.C01.apply_total` -/
theorem history_never_stops (calls : List Call) : ∀ m ∈ runHistory () calls, M.NoPanic m := by
  intro m hm
  rw [hist_refines] at hm
  obtain ⟨c, _, rfl⟩ := List.mem_map.mp hm
  exact JL.Props.C01.apply_total c.rule c.data

end JL.Props.C17
