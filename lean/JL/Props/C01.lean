import JL.Lemmas.C01Wf
/-!
# C01 — evaluation is total: a value or an error, never a panic, abort or hang

Termination needs no theorem: every function of the model is accepted by Lean as structurally recursive on
the rule (or on the data for `to_string`, equality, lookup), without fuel. What is proved here is that the
*panic* outcome — the model's image of `items[i]` out of bounds and of `unwrap` on `None` — is unreachable:

* `index_safe_eager`, `index_safe_data`: over the tables REGENERATED from `src/op/mod.rs`, every operator's
  positional accesses are in bounds for every operand count its arity descriptor accepts (an arity edit in
  `mod.rs` that admits a shorter list makes these fail to check);
* `run_noPanic`: a rule that passed the parse phase never panics, on any data (all depths, all values);
* `apply_total`, `apply_outcome`: `apply` yields a value or an error, with no hypothesis at all;
* `toNumberValue_wf`, `numResult_wf`: the numbers built by `to_number_value` are well-formed JSON numbers.

The walk and its leaves are in `JL/Lemmas/C01.lean`; the number lemmas are at the end of `JL/Lemmas/C01Wf.lean` and in
`JL/Lemmas/C10.lean`.
-/
namespace JL.Props.C01
open JL Json M

theorem numResult_noPanic (r : Option F64) : NoPanic (numResult r) := Lemmas.C01.numResult_noPanic r

theorem compare_noPanic (f : Json → Json → Bool) (items : List Json) (h : 2 ≤ items.length) : NoPanic (compare f items) :=
  Lemmas.C01.compare_noPanic f items h

/-- a rule that fails the parse phase is an error value, with no log line -/
theorem apply_parse_error (r d : Json) (h : check r = false) : apply r d = ⟨[], .err⟩ :=
  apply_of_not_check h d

/-! ## positional access is safe because (and only because) the arity was validated -/

/-- **Index safety, eager table.** For every entry of the regenerated eager table and every operand list
whose length the entry's descriptor accepts, the implementation's `items[i]` are all in bounds. -/
theorem index_safe_eager : ∀ e ∈ Tables.eager, ∀ items : List Json,
    e.arity.isValidLen items.length = true → NoPanic (execEager e.key items) :=
  Lemmas.C01.index_safe_eager

/-- **Index safety, data table** (`var`, `missing`, `missing_some`). -/
theorem index_safe_data : ∀ e ∈ Tables.data, ∀ (d : Json) (items : List Json),
    e.arity.isValidLen items.length = true → NoPanic (execData e.key d items) :=
  Lemmas.C01.index_safe_data

/-- **Index safety** (the name used by DESIGN.md and `audits/panic_sites.json`): both tables whose operators
index their evaluated operand vector. (Lazy operators index the raw operand list; their case is inside
`run_noPanic`, which derives the list shape from the lazy table's arities.) -/
theorem index_safe :
    (∀ e ∈ Tables.eager, ∀ items : List Json,
      e.arity.isValidLen items.length = true → NoPanic (execEager e.key items)) ∧
    (∀ e ∈ Tables.data, ∀ (d : Json) (items : List Json),
      e.arity.isValidLen items.length = true → NoPanic (execData e.key d items)) :=
  ⟨index_safe_eager, index_safe_data⟩

/-- the hypothesis of `index_safe_*` is needed: with one operand less than the table allows, the positional
access of the model does go out of bounds (so the theorems above are not vacuous about `panic`) -/
example : (execEager "==".toList [.null]).out = .panic := by decide +kernel
example : (execEager "substr".toList [.str "a".toList]).out = .panic := by decide +kernel
example : (execData "missing_some".toList .null [.null]).out = .panic := by decide +kernel
/-- and it is met by real operand lists -/
example : ∃ e ∈ Tables.eager, e.key = "substr".toList ∧ e.arity.isValidLen [Json.null, Json.null, Json.null].length = true :=
  by decide +kernel

/-! ## the data loops of the lazy operators: no panic of their own

These are statements about the loops and flag folds of the code for an arbitrary closure and fold state, so they are not
instances of `run_noPanic` (whose walk goes through the specifications and never meets a fold). -/

theorem mapData_noPanic {f : Json → M Json} (hf : ∀ x, NoPanic (f x)) (xs : List Json) : NoPanic (mapData f xs) :=
  (Lemmas.C01.mapData_post (W := fun _ => True) fun x _ => noPanic_iff_post.mp (hf x)).1 trivial
theorem filterData_noPanic {f : Json → M Json} (hf : ∀ x, NoPanic (f x)) (xs : List Json) : NoPanic (filterData f xs) :=
  (Lemmas.C01.filterData_post (W := fun _ => True) (fun x _ => noPanic_iff_post.mp (hf x)) fun _ _ => trivial).1 trivial
theorem reduceData_noPanic {f : Json → M Json} (hf : ∀ x, NoPanic (f x)) (xs : List Json) (acc : Json) :
    NoPanic (reduceData f xs acc) :=
  (Lemmas.C01.reduceData_post preserved_true (fun x _ => noPanic_iff_post.mp (hf x)) xs acc
    (fun _ _ => trivial) trivial).1 trivial
theorem quantData_noPanic (isAll : Bool) {p : Json → M Json} (hp : ∀ x, NoPanic (p x)) (xs : List Json) (res : Bool) :
    NoPanic (quantData isAll p xs res) := by
  induction xs generalizing res with
  | nil => exact noPanic_pure _
  | cons x xs ih =>
    unfold quantData
    split
    · exact ih res
    · exact noPanic_bind (hp x) fun _ => ih _
theorem quantValue_noPanic (isAll : Bool) (coll : Json) (predOk : Bool) {p : Json → M Json}
    (hp : predOk = true → ∀ x, NoPanic (p x)) : NoPanic (quantValue isAll coll predOk p) := by
  unfold quantValue
  split
  · exact noPanic_err
  · split
    · exact noPanic_pure _
    · split
      · exact noPanic_err
      · rename_i h
        exact noPanic_bind (quantData_noPanic isAll (hp (by simpa using h)) _ _) fun _ => noPanic_pure _

/-! ## the main theorem -/

/-- **No panic.** A rule accepted by the parse phase (`Parsed::from_value` succeeded) evaluates, on every
data value, to a value or an error value: no positional access out of bounds, no `unwrap` of `None`,
at any nesting depth and for any operand values. -/
theorem run_noPanic (r d : Json) (h : check r = true) : NoPanic (run r d) :=
  Lemmas.C01.run_noPanic r d h

/-- **Totality of `apply`**, for every rule and every data, without any hypothesis (`apply` parses first). -/
theorem apply_total (r d : Json) : NoPanic (apply r d) := by
  unfold apply
  split
  · exact run_noPanic r d ‹_›
  · exact noPanic_err

/-- **`apply` returns `Ok(v)` or `Err(e)`.** -/
theorem apply_outcome (r d : Json) : (∃ v, (apply r d).out = .ok v) ∨ (apply r d).out = .err := by
  have h := apply_total r d
  unfold NoPanic at h
  cases ho : (apply r d).out with
  | ok v => exact Or.inl ⟨v, rfl⟩
  | err => exact Or.inr rfl
  | panic => exact absurd ho h

theorem runList_noPanic (xs : List Json) (d : Json) (h : checkList xs = true) : NoPanic (runList xs d) := by
  rw [runList_eq_mapData]
  exact (Lemmas.C01.mapData_post (W := fun _ => True) fun x hx =>
    noPanic_iff_post.mp (run_noPanic x d ((checkList_iff xs).mp h x hx))).1 trivial

/-- a lazily parsed operand followed by something that does not panic -/
theorem noPanic_lazy {β} (x d : Json) {f : Json → M β} (hf : ∀ e, NoPanic (f e)) :
    NoPanic (if check x then run x d >>= f else M.err) :=
  apply_bind x d f ▸ noPanic_bind (apply_total x d) hf

/-- the folds of the lazy operators parse each operand just before evaluating it: no hypothesis needed -/
theorem runIf_noPanic (xs : List Json) (i : Nat) (st : Json × Bool × Bool) (d : Json) : NoPanic (runIf xs i st d) := by
  induction xs generalizing i st with
  | nil => exact noPanic_pure _
  | cons x xs ih =>
    obtain ⟨last, wasTruthy, _ | _⟩ := st
    · rcases Nat.mod_two_eq_zero_or_one i with hi | hi
      · rw [Lemmas.C05.runIf_cond hi]
        exact noPanic_lazy x d fun _ => ih _ _
      · rw [Lemmas.C05.runIf_branch hi]
        cases wasTruthy
        · exact ih _ _
        · exact noPanic_lazy x d fun _ => ih _ _
    · rw [Lemmas.C05.runIf_done]
      exact noPanic_pure _

theorem runOrAnd_noPanic (isOr : Bool) (xs : List Json) (st : OrState) (d : Json) : NoPanic (runOrAnd isOr xs st d) := by
  induction xs generalizing st with
  | nil => exact noPanic_pure _
  | cons x xs ih =>
    unfold runOrAnd
    split
    · exact ih _
    · exact noPanic_lazy x d fun _ => ih _

theorem runQuantLit_noPanic (isAll : Bool) {p : Json → M Json} (hp : ∀ x, NoPanic (p x)) (xs : List Json)
    (d : Json) (res : Bool) : NoPanic (runQuantLit isAll xs p d res) := by
  induction xs generalizing res with
  | nil => exact noPanic_pure _
  | cons x xs ih =>
    unfold runQuantLit
    split
    · exact ih res
    · split
      · exact noPanic_err
      · rename_i h
        exact noPanic_bind (run_noPanic x d (by simpa using h)) fun _ => noPanic_bind (hp _) fun _ => ih _

/-! non-vacuity: concrete rules meet `check r = true`, with every kind of operator, and evaluate -/
example : check (.obj [("+".toList, .arr [.num (.pos 1), .obj [("var".toList, .str "a".toList)]])]) = true := by
  decide +kernel
example : check (.obj [("map".toList, .arr [.obj [("var".toList, .str "a".toList)],
    .obj [("substr".toList, .arr [.obj [("var".toList, .str "".toList)], .num (.neg 1)])]])]) = true := by
  decide +kernel
example : (apply (.obj [("map".toList, .arr [.obj [("var".toList, .str "a".toList)],
      .obj [("substr".toList, .arr [.obj [("var".toList, .str "".toList)], .num (.neg 1)])]])])
    (.obj [("a".toList, .arr [.str "xyz".toList])])).out = .ok (.arr [.str "z".toList]) := by
  decide +kernel
/-- both disjuncts of `apply_outcome` occur -/
example : (apply (.obj [("<".toList, .arr [.null])]) .null).out = .err := by decide +kernel
example : (apply (.obj [("/".toList, .arr [.num (.pos 1), .num (.pos 0)])]) .null).out = .err := by decide +kernel
/-- `check` is not trivially true -/
example : check (.obj [("reduce".toList, .arr [.null, .null])]) = false := by decide +kernel

/-! ## no ill-formed number is produced by the arithmetic operators

The part of `result_wf` (`∀ r d v, r.wf → d.wf → (apply r d).out = .ok v → v.wf`, proved in `Props/C01Wf.lean`) that
needs no hypothesis on the operands: `to_number_value` and the operators `+ * - /`, whose result went through the
rounding function whatever the operands were. -/

-- elaborating the statement unfolds `F64.WF` down to `OVF = 2 ^ 2098` (the first magnitude, in units of `2^-1074`, that
-- overflows), which the default threshold refuses to evaluate
set_option exponentiation.threshold 2200 in
/-- every double the model's rounding produces is on the binary64 grid (or infinite) -/
theorem roundUnits_wf (neg : Bool) (num den : Nat) : F64.WF (F64.roundUnits neg num den) :=
  F64.roundUnits_WF neg num den

/-- `to_number_value` of a double on the grid is a well-formed JSON number: a `u64`, a negative `i64`, or a
finite float (non-finite results are `Err`, never an invalid number) -/
theorem toNumberValue_wf (x : F64) (hx : F64.WF x) (v : Json) (h : toNumberValue x = some v) : v.wf = true :=
  JL.toNumberValue_wf x hx v h

theorem numResult_wf (r : Option F64) (hr : ∀ x, r = some x → F64.WF x) (v : Json)
    (h : (numResult r).out = .ok v) : v.wf = true :=
  Lemmas.C01.numResult_wf r hr v h

/-- `+ * - /` on ANY operand values (no well-formedness needed of them: the result went through the rounding
function) and any operand count: a successful result is a well-formed value. -/
theorem result_wf_partial (k : Str) (hk : k = "+".toList ∨ k = "*".toList ∨ k = "-".toList ∨ k = "/".toList)
    (items : List Json) (v : Json) (h : (execEager k items).out = .ok v) : v.wf = true :=
  Lemmas.C01.arith_result_wf k hk items v h

/-! non-vacuity: the hypotheses are met, with an integral and a fractional result, and a non-finite one is `Err` -/
set_option exponentiation.threshold 2200 in
example : F64.WF (F64.fin false (3 * F64.S)) ∧ toNumberValue (F64.fin false (3 * F64.S)) = some (.num (.pos 3)) := by
  decide +kernel
example : (execEager "/".toList [.num (.pos 1), .num (.pos 4)]).out
    = .ok (.num (.flt (F64.fin false (F64.S / 4)))) := by decide +kernel
example : (execEager "/".toList [.num (.pos 1), .num (.pos 0)]).out = .err := by decide +kernel

end JL.Props.C01
