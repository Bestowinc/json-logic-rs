import JL.Props.C01
import JL.Lemmas.C01Wf
/-!
# C01 (well-formedness half) — evaluation never produces an ill-formed JSON value

`Json.wf` is what `serde_json::Value` can hold and the text interfaces can deliver: numbers are a `u64`, a
negative `i64` or a *finite* binary64 on the grid (`Num.WF`), objects have strictly sorted (hence distinct) keys,
recursively. This file proves the full statement, of which `Props/C01.lean` has the arithmetic part:

* `result_wf`  : `r.wf → d.wf → (apply r d).out = .ok v → v.wf` — for every rule, every data, all operators
  (eager, data and lazy), all nesting depths; no `check` hypothesis, no size bound;
* `logs_wf`    : every line printed by `log` during `apply r d` is well-formed — whatever the outcome (value or
  error), i.e. also the lines printed before an error;
* `apply_wf`   : the two together;
* `run_result_wf`, `run_logs_wf` : the same for the evaluation phase `run` alone;
* value level  : `execEager_wf`, `execEager_logs_wf` (every eager operator maps well-formed operands to a
  well-formed result / log lines), `execData_wf` (`var`, `missing`, `missing_some` on well-formed data),
  `getKey_wf` (a `var` lookup returns a sub-value of the data or a one-character string), `reduceCtx_wf`
  (the `{"accumulator":…, "current":…}` context object of `reduce` is a well-formed object),
  `mod_result_wf`, `max_result_wf`, `min_result_wf` (the numeric operators `Props/C01.lean` left out).

The hypotheses are needed (a literal rule is returned as it is, `var ""` returns the data as it is): see the
examples at the end. The proofs are in `JL/Lemmas/C01Wf.lean` (`execEager_wf`, `execData_wf`; `run_wf` is, like
`run_noPanic`, an instance of the one walk through `run`, `Lemmas.C01.run_post`).
-/
namespace JL.Props.C01
open JL Json M

/-! ## value level: operators -/

/-- **Eager operators build well-formed values**: any key, any operand count, well-formed operands. -/
theorem execEager_wf (k : Str) (items : List Json) (hi : wfList items = true) (v : Json)
    (h : (execEager k items).out = .ok v) : v.wf = true :=
  (Lemmas.C01Wf.execEager_wf k items hi).2.1 v h

/-- what an eager operator prints (`log`: its operand) is well-formed -/
theorem execEager_logs_wf (k : Str) (items : List Json) (hi : wfList items = true) :
    ∀ l ∈ (execEager k items).logs, l.wf = true :=
  (Lemmas.C01Wf.execEager_wf k items hi).2.2

/-- **Data operators build well-formed values** from well-formed data and operands. -/
theorem execData_wf (k : Str) (d : Json) (hd : d.wf = true) (items : List Json) (hi : wfList items = true)
    (v : Json) (h : (execData k d items).out = .ok v) : v.wf = true :=
  (Lemmas.C01Wf.execData_wf k d hd items hi).2.1 v h

/-- data operators print nothing -/
theorem execData_logs_wf (k : Str) (d : Json) (hd : d.wf = true) (items : List Json) (hi : wfList items = true) :
    ∀ l ∈ (execData k d items).logs, l.wf = true :=
  (Lemmas.C01Wf.execData_wf k d hd items hi).2.2

/-- a `var` lookup in well-formed data yields a well-formed value (a sub-value, or a one-character string) -/
theorem getKey_wf (d : Json) (key : Data.Key) (v : Json) (hd : d.wf = true) (h : Data.getKey d key = some v) :
    v.wf = true :=
  Lemmas.C01Wf.getKey_wf d key v hd h

/-- the context object handed to the `reduce` expression is a well-formed object (keys sorted and distinct) -/
theorem reduceCtx_wf (acc cur : Json) (ha : acc.wf = true) (hc : cur.wf = true) : (reduceCtx acc cur).wf = true :=
  Lemmas.C01Wf.reduceCtx_wf acc cur ha hc

/-- `%`: the remainder of two doubles on the grid is on the grid, and the result is narrowed -/
theorem mod_result_wf (a b : Json) (ha : a.wf = true) (hb : b.wf = true) (v : Json)
    (h : (numResult (JsOp.abstractMod a b)).out = .ok v) : v.wf = true :=
  numResult_wf _ (JsOp.abstractMod_WF a b ha hb) v h

/-- `max`: one of the converted operands (the initial `-∞` is rejected by `to_number_value`) -/
theorem max_result_wf (items : List Json) (hi : wfList items = true) (v : Json)
    (h : (numResult (JsOp.abstractMax items)).out = .ok v) : v.wf = true :=
  numResult_wf _ (JsOp.abstractMax_WF items ((wfList_iff items).mp hi)) v h

/-- `min`, likewise -/
theorem min_result_wf (items : List Json) (hi : wfList items = true) (v : Json)
    (h : (numResult (JsOp.abstractMin items)).out = .ok v) : v.wf = true :=
  numResult_wf _ (JsOp.abstractMin_WF items ((wfList_iff items).mp hi)) v h

/-! ## the evaluation phase -/

/-- a value produced by `run` on a well-formed rule and well-formed data is well-formed -/
theorem run_result_wf (r d v : Json) (hr : r.wf = true) (hd : d.wf = true) (h : (run r d).out = .ok v) :
    v.wf = true :=
  (Lemmas.C01Wf.run_wf r d hr hd).2.1 v h

/-- every line logged by `run` is well-formed, whatever the outcome -/
theorem run_logs_wf (r d : Json) (hr : r.wf = true) (hd : d.wf = true) : ∀ l ∈ (run r d).logs, l.wf = true :=
  (Lemmas.C01Wf.run_wf r d hr hd).2.2

/-- operands of an eager/data operation: a list of well-formed values -/
theorem runList_wf (xs : List Json) (d : Json) (vs : List Json) (hxs : wfList xs = true) (hd : d.wf = true)
    (h : (runList xs d).out = .ok vs) : wfList vs = true :=
  (wfList_iff vs).mpr <| by
    rw [runList_eq_mapData] at h
    exact ((Lemmas.C01.mapData_post fun x hx =>
      Lemmas.C01Wf.run_wf x d ((wfList_iff xs).mp hxs x hx) hd).2.1 vs h).2

/-! ## the main theorems -/

/-- **Well-formed results (FULL statement).** `apply` on a well-formed rule and well-formed data never returns
an ill-formed value: no non-finite or off-grid float, no out-of-range integer variant, no object with unsorted
or duplicate keys, at any depth of the result. -/
theorem result_wf : ∀ r d v : Json, r.wf = true → d.wf = true → (apply r d).out = .ok v → v.wf = true :=
  fun r d v hr hd h => (Lemmas.C01Wf.apply_wf r d hr hd).2.1 v h

/-- **Well-formed log lines.** Every line `apply` prints is a well-formed value — also when it ends in an error. -/
theorem logs_wf : ∀ r d : Json, r.wf = true → d.wf = true → ∀ l ∈ (apply r d).logs, l.wf = true :=
  fun r d hr hd => (Lemmas.C01Wf.apply_wf r d hr hd).2.2

/-- both, in one statement -/
theorem apply_wf (r d : Json) (hr : r.wf = true) (hd : d.wf = true) :
    (∀ v, (apply r d).out = .ok v → v.wf = true) ∧ ∀ l ∈ (apply r d).logs, l.wf = true :=
  ⟨fun v => result_wf r d v hr hd, logs_wf r d hr hd⟩

/-- with `apply_outcome`: the outcome of `apply` is a well-formed value or an error value -/
theorem apply_outcome_wf (r d : Json) (hr : r.wf = true) (hd : d.wf = true) :
    (∃ v, (apply r d).out = .ok v ∧ v.wf = true) ∨ (apply r d).out = .err := by
  rcases apply_outcome r d with ⟨v, hv⟩ | he
  · exact Or.inl ⟨v, hv, result_wf r d v hr hd hv⟩
  · exact Or.inr he

/-! ## non-vacuity

Concrete rules and data meet the hypotheses, evaluate to a value, and exercise the parts of the proof that are
not trivial: `reduce` (context object), `%`, `max`, `merge`, `var` into strings, `log`, `all` over a string. -/

/-- `{"reduce":[{"var":"a"},{"+":[{"var":"current"},{"var":"accumulator"}]},0]}` on `{"a":[1,2,3]}` is `6` -/
example :
    let r : Json := .obj [("reduce".toList, .arr [.obj [("var".toList, .str "a".toList)],
      .obj [("+".toList, .arr [.obj [("var".toList, .str "current".toList)],
                               .obj [("var".toList, .str "accumulator".toList)]])], .num (.pos 0)])]
    let d : Json := .obj [("a".toList, .arr [.num (.pos 1), .num (.pos 2), .num (.pos 3)])]
    r.wf = true ∧ d.wf = true ∧ (apply r d).out = .ok (.num (.pos 6)) := by decide +kernel

/-- `{"log":{"%":[7,{"var":"b"}]}}` on `{"a":"xyz","b":2}`: prints `1`, returns `1` -/
example :
    let r : Json := .obj [("log".toList, .obj [("%".toList, .arr [.num (.pos 7), .obj [("var".toList, .str "b".toList)]])])]
    let d : Json := .obj [("a".toList, .str "xyz".toList), ("b".toList, .num (.pos 2))]
    r.wf = true ∧ d.wf = true ∧ apply r d = ⟨[.num (.pos 1)], .ok (.num (.pos 1))⟩ := by decide +kernel

/-- `{"merge":[{"var":"a.1"},{"max":[1,{"var":"b"}]},{"map":[{"var":"c"},{"-":{"var":""}}]}]}` -/
example :
    let r : Json := .obj [("merge".toList, .arr [.obj [("var".toList, .str "a.1".toList)],
      .obj [("max".toList, .arr [.num (.pos 1), .obj [("var".toList, .str "b".toList)]])],
      .obj [("map".toList, .arr [.obj [("var".toList, .str "c".toList)],
        .obj [("-".toList, .obj [("var".toList, .str "".toList)])]])]])]
    let d : Json := .obj [("a".toList, .str "xyz".toList), ("b".toList, .num (.pos 2)),
      ("c".toList, .arr [.num (.pos 5), .num (.neg 3)])]
    r.wf = true ∧ d.wf = true ∧
      (apply r d).out = .ok (.arr [.str "y".toList, .num (.pos 2), .num (.neg 5), .num (.pos 3)]) := by
  decide +kernel

/-- lines are printed before an error too, and they are well-formed: `{"+":[{"log":{"var":""}},{"/":[1,0]}]}` -/
example :
    let r : Json := .obj [("+".toList, .arr [.obj [("log".toList, .obj [("var".toList, .str "".toList)])],
      .obj [("/".toList, .arr [.num (.pos 1), .num (.pos 0)])]])]
    let d : Json := .obj [("a".toList, .null), ("b".toList, .null)]
    r.wf = true ∧ d.wf = true ∧ apply r d = ⟨[d], .err⟩ := by decide +kernel

/-- the context object of `reduce` -/
example : (reduceCtx (.num (.pos 1)) .null).wf = true := by decide +kernel

/-! the hypotheses are needed: a literal rule is its own result, `var ""` is the data, `log` prints its operand -/

/-- `r.wf` is needed: an out-of-range "integer" literal is returned as it is -/
example : (apply (.num (.pos (2 ^ 64))) .null).out = .ok (.num (.pos (2 ^ 64))) ∧
    (Json.num (.pos (2 ^ 64))).wf = false := by decide +kernel

/-- `r.wf` is needed: an object literal with unsorted keys (not an operation: two keys) is returned as it is -/
example :
    let r : Json := .obj [("b".toList, .null), ("a".toList, .null)]
    (apply r .null).out = .ok r ∧ r.wf = false := by decide +kernel

/-- `d.wf` is needed: `{"var":""}` returns the data, here a non-finite "number" -/
example :
    let r : Json := .obj [("var".toList, .str [])]
    let d : Json := .num (.flt (F64.inf false))
    r.wf = true ∧ (apply r d).out = .ok d ∧ d.wf = false := by decide +kernel

/-- `d.wf` is needed for the log lines: `{"log":{"var":""}}` prints the data -/
example :
    let r : Json := .obj [("log".toList, .obj [("var".toList, .str [])])]
    let d : Json := .obj [("a".toList, .null), ("a".toList, .null)]
    r.wf = true ∧ (apply r d).logs = [d] ∧ d.wf = false := by decide +kernel

/-- the conclusion is not trivially true of arithmetic: a non-finite double is an error, never a value -/
example : (apply (.obj [("*".toList, .arr [.str "1e200".toList, .str "1e200".toList])]) .null).out = .err := by
  decide +kernel

end JL.Props.C01
