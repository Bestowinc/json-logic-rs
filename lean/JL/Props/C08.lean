import JL.Props.C07
/-!
# C08 — `===` / `!==` compare primitives by type and value; containers are never equal
-/
namespace JL.Props.C08
open JL Json JsOp

/-- characterisation: strictly equal iff same primitive type and same value (numbers by their double) -/
theorem strict_eq_char (a b : Json) :
    strictEq a b = true ↔
      (a = .null ∧ b = .null) ∨ (∃ x, a = .bool x ∧ b = .bool x) ∨
      (∃ x y, a = .num x ∧ b = .num y ∧ F64.eq x.toF64 y.toF64 = true) ∨ (∃ s, a = .str s ∧ b = .str s) := by
  constructor
  · intro h
    match a, b, h with
    | .null, .null, _ => exact .inl ⟨rfl, rfl⟩
    | .bool x, .bool y, h => exact .inr (.inl ⟨x, rfl, by rw [eq_of_beq h]⟩)
    | .num x, .num y, h => exact .inr (.inr (.inl ⟨x, y, rfl, rfl, h⟩))
    | .str s, .str t, h => exact .inr (.inr (.inr ⟨s, rfl, by rw [eq_of_beq h]⟩))
  · rintro (⟨rfl, rfl⟩ | ⟨x, rfl, rfl⟩ | ⟨x, y, rfl, rfl, h⟩ | ⟨s, rfl, rfl⟩)
    · rfl
    · exact beq_self_eq_true x
    · exact h
    · exact beq_self_eq_true s

/-- arrays and objects are never strictly equal to anything, not even to a structurally identical value -/
theorem arr_never (xs : List Json) (b : Json) : strictEq (.arr xs) b = false ∧ strictEq b (.arr xs) = false := by
  cases b <;> exact ⟨rfl, rfl⟩
theorem obj_never (kvs : List (Str × Json)) (b : Json) : strictEq (.obj kvs) b = false ∧ strictEq b (.obj kvs) = false := by
  cases b <;> exact ⟨rfl, rfl⟩

theorem strict_ne_not (a b : Json) : strictNe a b = !strictEq a b := rfl

theorem f64_eq_symm (x y : F64) : F64.eq x y = F64.eq y x := JL.Lemmas.F64Order.eq_symm x y

theorem strict_symm (a b : Json) : strictEq a b = strictEq b a := by
  cases a <;> cases b <;> try rfl
  · exact Bool.beq_comm      -- two Booleans
  · exact f64_eq_symm _ _    -- two numbers
  · exact BEq.comm           -- two strings

/-- whenever `===` holds, `==` holds too -/
theorem strict_imp_abstract (a b : Json) (h : strictEq a b = true) : abstractEq a b = true := by
  -- through the standard: IsStrictlyEqual is false on different types (7.2.15 step 1), and on equal types `==` is `===`;
  -- the sweep over the 36 constructor pairs proves it too, but is slow to check
  have ht : (Spec.ES.ofJson a).type = (Spec.ES.ofJson b).type := Decidable.of_not_not fun hne => by
    rw [C07.strict_eq_es] at h; unfold Spec.ES.strictlyEqual at h; rw [if_pos hne] at h; cases h
  rw [C07.eq_same_type a b ht, h]

example : strictEq (.num (.pos 1)) (.num (.flt F64.one)) = true := by decide +kernel
example : strictEq (.num (.pos 0)) (.num (.flt (F64.fin true 0))) = true := by decide +kernel
example : strictEq (.arr []) (.arr []) = false := by decide

/-! ## operator level -/

theorem op_strict_eq (a b : Json) : execEager "===".toList [a, b] = ⟨[], .ok (.bool (strictEq a b))⟩ := by
  unfold execEager; simp only [↓reduceIte, String.toList_inj, String.reduceEq]; rfl
theorem op_strict_ne (a b : Json) : execEager "!==".toList [a, b] = ⟨[], .ok (.bool (!strictEq a b))⟩ := by
  unfold execEager; simp only [↓reduceIte, String.toList_inj, String.reduceEq]; rfl

/-- `{"===": [a, b]}` and `{"===": [b, a]}` (operands already evaluated) give the same result -/
theorem op_strict_symm (a b : Json) : execEager "===".toList [a, b] = execEager "===".toList [b, a] := by
  rw [op_strict_eq, op_strict_eq, strict_symm]

theorem op_strict_ne_symm (a b : Json) : execEager "!==".toList [a, b] = execEager "!==".toList [b, a] := by
  rw [op_strict_ne, op_strict_ne, strict_symm]

/-! ## numbers compare as doubles -/

/-- on numbers `===` is equality of the doubles (`f64 ==` of `as_f64()`), whichever of the three representations
(`PosInt`, `NegInt`, `Float`) the two numbers have -/
theorem strict_num_iff (x y : Num) : strictEq (.num x) (.num y) = F64.eq x.toF64 y.toF64 := rfl

/-- a number is never strictly equal to a non-number -/
theorem strict_num_other (x : Num) (b : Json) (h : ∀ y, b ≠ .num y) : strictEq (.num x) b = false := by
  cases b <;> first | rfl | exact absurd rfl (h _)

/-- 1 vs 1.0; 0 vs −0.0; 2^53 vs 2^53+1 (*equal* as doubles: both round to 9007199254740992.0), but 2^53 vs 2^53+2 differ;
u64::MAX vs 2^64 as a float -/
example : strictEq (.num (.pos 1)) (.num (.flt F64.one)) = true := by decide +kernel
example : strictEq (.num (.pos 0)) (.num (.flt (F64.fin true 0))) = true := by decide +kernel
example : strictEq (.num (.flt (F64.fin false 0))) (.num (.flt (F64.fin true 0))) = true := by decide +kernel
example : strictEq (.num (.pos (2^53))) (.num (.pos (2^53 + 1))) = true := by decide +kernel
example : strictEq (.num (.pos (2^53))) (.num (.pos (2^53 + 2))) = false := by decide +kernel
example : strictEq (.num (.pos (2^64 - 1))) (.num (.flt (F64.ofNat (2^64)))) = true := by decide +kernel
example : strictEq (.num (.neg 1)) (.num (.flt (F64.negate F64.one))) = true := by decide +kernel
example : strictEq (.num (.pos 1)) (.str "1".toList) = false ∧ strictEq (.num (.pos 1)) (.bool true) = false := by decide +kernel
example : execEager "===".toList [.num (.pos 1), .num (.flt F64.one)] = ⟨[], .ok (.bool true)⟩ := by
  rw [op_strict_eq]; decide +kernel

end JL.Props.C08
