import JL.Lemmas.Monad
import JL.Lemmas.C16
import JL.Lemmas.ToString
/-!
# C16 — `cat` concatenates JS string forms; `substr` slices by Unicode character
-/
namespace JL.Props.C16
open JL Json StrOp JL.Spec

/-- the string form `cat` uses for one operand: strings unchanged, everything else `js_op::to_string` -/
def strForm : Json → Str
  | .str s => s
  | v => JsOp.toString v

/-- `cat` is the concatenation of its operands' string forms -/
theorem cat_spec (items : List Json) : cat items = (items.map strForm).flatten :=
  List.flatMap_def ..

theorem cat_append (xs ys : List Json) : cat (xs ++ ys) = cat xs ++ cat ys := by
  simp [cat]

/-- concatenating in pieces equals concatenating at once -/
theorem cat_pieces (xs ys : List Json) : cat (xs ++ ys) = cat [.str (cat xs), .str (cat ys)] := by
  rw [cat_append]; simp [cat]

theorem op_cat (items : List Json) : execEager "cat".toList items = ⟨[], .ok (.str (cat items))⟩ := by
  unfold execEager; simp only [String.toList_inj, String.reduceEq, ↓reduceIte]; rfl

/-- `substr` counts in characters: the result is a contiguous run of characters of the string -/
theorem substr_is_slice (s : Str) (i : Json) (l : Option Json) (r : Json) (h : substr (.str s) i l = some r) :
    ∃ st cnt, r = .str ((s.drop st).take cnt) := by
  unfold substr at h
  simp only at h
  split at h
  · cases h
  · split at h
    · simp only [Option.some.injEq] at h; exact ⟨_, _, h.symm⟩
    · split at h
      · cases h
      · simp only [Option.some.injEq] at h; exact ⟨_, _, h.symm⟩

/-! ## the string-form table of the property -/

/-- the string form is `js_op::to_string` on every value (which leaves strings unchanged) -/
theorem strForm_eq_toString (v : Json) : strForm v = JsOp.toString v := by
  cases v <;> rfl

/-- what an array element contributes to the comma-joined form of its array: `null` nothing, anything else its string form -/
def elemForm : Json → Str
  | .null => []
  | v => strForm v

theorem strForm_str (s : Str) : strForm (.str s) = s := rfl
theorem strForm_null : strForm .null = "null".toList := by rfl
theorem strForm_true : strForm (.bool true) = "true".toList := by rfl
theorem strForm_false : strForm (.bool false) = "false".toList := by rfl
/-- numbers: their JSON text (`Display for Number`) -/
theorem strForm_num (n : Num) : strForm (.num n) = n.toStr := by rfl
theorem strForm_obj (kvs : List (Str × Json)) : strForm (.obj kvs) = "[object Object]".toList := by rfl

/-- arrays: the element forms joined with commas; `null` ELEMENTS are empty (`[null,1]` ↦ `",1"`), nested arrays recursively -/
theorem strForm_arr (xs : List Json) : strForm (.arr xs) = joinWith [','] (xs.map elemForm) := by
  rw [show elemForm = elemStr from funext fun v => by cases v <;> rfl]; exact toString_arr_eq_map xs

theorem elemForm_null : elemForm .null = [] := rfl
theorem elemForm_nonnull (v : Json) (h : v ≠ .null) : elemForm v = strForm v := by
  cases v <;> first | rfl | exact absurd rfl h

example : cat [.null, .arr [.null, .num (.pos 1), .arr [.str "a".toList, .null]], .obj [], .bool true, .num (.neg 3), .str "é".toList]
    = "null,1,a,[object Object]true-3é".toList := by decide +kernel
example : cat [.num (.flt (.fin false (F64.S + F64.S / 2)))] = "1.5".toList := by decide +kernel

/-! ## `substr`, in characters, against `Spec.substrSpec` -/

/-- `substr(s, i)` for EVERY integer `i` an `i64` can hold (indeed every integer): the characters after the start
`Spec.substrStart` — `i ≥ 0` ↦ drop `min i len`, `i < 0` ↦ drop `len − min |i| len`. No hypothesis on the string. -/
theorem substr_spec_start (s : Str) (ni : Num) (i : Int) (hi : ni.asI64 = some i) :
    substr (.str s) (.num ni) none = some (.str (substrSpec s i none)) := by
  simp only [substr, intArg, hi, ← JL.Lemmas.C16.slice_eq_substrSpec s i none (.inl rfl)]

/-- `substr(s, i, l)` for every pair of 64-bit integers: start as above; `l ≥ 0` ↦ take `l` characters,
`l < 0` ↦ stop `|l|` characters before the end (empty if that is before the start); everything clamped to the string.
The only hypothesis: the length of the string fits a `usize`. `start + l` may still overflow; the fallback `len` is then
what the clamp gives anyway (`Lemmas.C16.substrBounds_eq`). -/
theorem substr_spec_len (s : Str) (ni nl : Num) (i l : Int) (hs : s.length < 2 ^ 64)
    (hi : ni.asI64 = some i) (hl : nl.asI64 = some l) :
    substr (.str s) (.num ni) (some (.num nl)) = some (.str (substrSpec s i (some l))) := by
  simp only [substr, intArg, hi, hl, ← JL.Lemmas.C16.slice_eq_substrSpec s i (some l) (.inr hs)]

/-- both forms at once; `lim = none` is the two-operand form -/
theorem substr_spec (s : Str) (ni : Num) (i : Int) (lim : Option (Num × Int)) (hs : s.length < 2 ^ 63)
    (hi : ni.asI64 = some i) (hl : ∀ p, lim = some p → p.1.asI64 = some p.2) :
    substr (.str s) (.num ni) (lim.map (fun p => .num p.1)) = some (.str (substrSpec s i (lim.map (·.2)))) := by
  cases lim with
  | none => exact substr_spec_start s ni i hi
  | some p => exact substr_spec_len s ni p.1 i p.2 (Nat.lt_trans hs (by decide)) hi (hl p rfl)

theorem asI64_pos (i : Nat) (hi : i < 2 ^ 63) : (Num.pos i).asI64 = some (i : Int) := if_pos hi

/-- for every string and every start `i ≥ 0`, start `i` without length drops `min i len` characters -/
theorem substr_nonneg_start (s : Str) (i : Nat) (hi : i < 2 ^ 63) :
    substr (.str s) (.num (.pos i)) none = some (.str (s.drop (min s.length i))) := by
  have := substr_spec_start s (.pos i) i (asI64_pos i hi)
  rwa [substrSpec, substrStart, if_pos (Int.natCast_nonneg i), Int.toNat_natCast, Nat.min_comm] at this

/-- every `i64` is the `as_i64` of a well-formed number, so `substr_spec_start` and `substr_spec_len` cover all 64-bit integer
operands -/
theorem asI64_ofI64 (i : Int) (h1 : -(2 ^ 63) ≤ i) (h2 : i < 2 ^ 63) : (Num.ofI64 i).asI64 = some i ∧ (Num.ofI64 i).WF := by
  unfold Num.ofI64
  split
  · next h =>
    have e : (i.natAbs : Int) = -i := Int.ofNat_natAbs_of_nonpos (Int.le_of_lt h)
    exact ⟨congrArg some (by rw [e, Int.neg_neg]), by omega, by omega⟩
  · next h =>
    have e : (i.toNat : Int) = i := Int.toNat_of_nonneg (Int.not_lt.mp h)
    have : i.toNat < 2 ^ 63 := by omega
    exact ⟨(if_pos this).trans (congrArg some e), Nat.lt_trans this (by decide)⟩

/-- the specification, unfolded: start only -/
theorem substrSpec_none (s : Str) (i : Int) :
    substrSpec s i none = s.drop (if 0 ≤ i then min i.toNat s.length else s.length - min i.natAbs s.length) := rfl

/-- the result never has more characters than asked for -/
theorem substrSpec_length_le (s : Str) (i l : Int) (h : 0 ≤ l) : (substrSpec s i (some l)).length ≤ l.toNat := by
  simp only [substrSpec, h, if_true, List.length_take]; omega

/-- split / recombine: for every string (any characters) and every `i ≥ 0` an `i64` can hold,
`substr(s,0,i)` followed by `substr(s,i)` is `s` (for the specification, and any index: `Lemmas.C16.substrSpec_split`) -/
theorem split_recombine (s : Str) (i : Nat) (hs : s.length < 2 ^ 63) (hi : i < 2 ^ 63) :
    ∃ a b, substr (.str s) (.num (.pos 0)) (some (.num (.pos i))) = some (.str a) ∧
           substr (.str s) (.num (.pos i)) none = some (.str b) ∧ a ++ b = s :=
  ⟨_, _, substr_spec_len s _ _ 0 i (Nat.lt_trans hs (by decide)) (asI64_pos 0 (by decide)) (asI64_pos i hi),
    substr_spec_start s _ i (asI64_pos i hi), JL.Lemmas.C16.substrSpec_split s i⟩

/-- the same law through `cat` -/
theorem split_recombine_cat (s : Str) (i : Nat) (hs : s.length < 2 ^ 63) (hi : i < 2 ^ 63) (a b : Json)
    (ha : substr (.str s) (.num (.pos 0)) (some (.num (.pos i))) = some a)
    (hb : substr (.str s) (.num (.pos i)) none = some b) : cat [a, b] = s := by
  obtain ⟨a', b', h1, h2, h3⟩ := split_recombine s i hs hi
  rw [h1] at ha; rw [h2] at hb
  cases ha; cases hb
  simpa [cat] using h3

/-! ## type errors: an `Err`, never a panic -/

/-- first operand not a string -/
theorem substr_nonstring (v i : Json) (l : Option Json) (h : ∀ s, v ≠ .str s) : substr v i l = none := by
  cases v <;> first | rfl | exact absurd rfl (h _)

/-- a number that is not an `i64`: a float (even `2.0`), or a positive integer `≥ 2^63` -/
theorem asI64_flt (f : F64) : (Num.flt f).asI64 = none := rfl
theorem asI64_big (n : Nat) (h : 2 ^ 63 ≤ n) : (Num.pos n).asI64 = none := if_neg (Nat.not_lt.mpr h)

/-- second operand not an integer (not a number, or `as_i64` fails) -/
theorem substr_bad_index (v i : Json) (l : Option Json) (h : intArg i = none) : substr v i l = none := by
  cases v <;> simp only [substr, h]

theorem intArg_nonnum (v : Json) (h : ∀ n, v ≠ .num n) : intArg v = none := by
  cases v <;> first | rfl | exact absurd rfl (h _)
theorem intArg_num (n : Num) : intArg (.num n) = n.asI64 := rfl

/-- third operand present and not an integer -/
theorem substr_bad_length (v i l : Json) (h : intArg l = none) : substr v i (some l) = none := by
  cases v <;> simp only [substr, h]
  split <;> rfl

/-- `substr` succeeds exactly on (string, integer[, integer]) -/
theorem substr_isSome_iff (v i : Json) (l : Option Json) :
    (substr v i l).isSome = true ↔ (∃ s, v = .str s) ∧ (intArg i).isSome = true ∧ (∀ lv, l = some lv → (intArg lv).isSome = true) := by
  cases v with
  | str s =>
    cases hi : intArg i with
    | none => simp [substr, hi]
    | some j =>
      cases l with
      | none => simp [substr, hi]
      | some lv => cases hl : intArg lv <;> simp [substr, hi, hl]
  | _ => simp [substr]

/-- at the operator: two or three operands give the value or an ordinary error — the panic outcome is for an operand count
the arity table rejects beforehand (`C01.index_safe_eager`) -/
theorem op_substr (items : List Json) : execEager "substr".toList items =
    match items with
    | [s, i] => M.ofOption (substr s i none)
    | s :: i :: l :: _ => M.ofOption (substr s i (some l))
    | _ => M.panic := by
  unfold execEager; simp only [String.toList_inj, String.reduceEq, ↓reduceIte]; rfl
theorem op_substr_noPanic (s i : Json) (tl : List Json) : M.NoPanic (execEager "substr".toList (s :: i :: tl)) := by
  rw [op_substr]
  cases tl <;> exact M.noPanic_ofOption _

/-! ## non-vacuity -/
example : substr (.str "éa".toList) (.num (.neg 1)) none = some (.str "a".toList) := by decide +kernel
example : substr (.str "abc".toList) (.num (.neg (2^63))) none = some (.str "abc".toList) := by decide +kernel
example : (Num.neg (2^63)).asI64 = some (-(2^63)) ∧ (Num.neg (2^63)).WF := by decide +kernel
example : substrSpec "abc".toList (-(2^63)) (some (-(2^63))) = [] := by decide +kernel
example : substr (.str "a€𝄞bé".toList) (.num (.pos 1)) (some (.num (.neg 1))) = some (.str "€𝄞b".toList) := by decide +kernel
example : substr (.str "abc".toList) (.num (.pos (2^63 - 1))) (some (.num (.pos (2^63 - 1)))) = some (.str []) := by decide +kernel
example : substr (.str "abc".toList) (.num (.flt (.fin false (2 * F64.S)))) none = none := by decide +kernel
example : substr (.str "abc".toList) (.num (.pos (2^63))) none = none := by decide +kernel
example : substr (.num (.pos 1)) (.num (.pos 1)) none = none := by decide +kernel
example : substr (.str "abc".toList) (.num (.pos 1)) (some (.str "1".toList)) = none := by decide +kernel
example : "a€𝄞bé".toList.length < 2 ^ 63 := by decide +kernel

end JL.Props.C16
