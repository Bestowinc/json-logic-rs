import JL.Props.C09
import JL.Lemmas.Utf8
/-!
# C09 / strings — the model's code-point order IS Rust's byte order on `String`

`JL/Basic.lean` models a Rust `String` as `Str = List Char` and `js_op::abstract_lt` on two strings (`f < s`, i.e.
`<str as Ord>`, a comparison of the UTF-8 byte slices) as `strLt`, the lexicographic order on code points. This file
removes that modelling assumption: with UTF-8 defined from the RFC 3629 table (`JL/Spec/Utf8.lean`, independent of Lean's
`String`), comparing the encodings byte-wise gives exactly `strLt`.
-/
namespace JL.Props.C09
open JL Json JsOp JL.Spec.Utf8

/-- UTF-8 preserves code-point order: byte-wise lexicographic `<` on the encodings (Rust's `String` order) is the
lexicographic `<` on code points (the model's `strLt`), for all strings -/
theorem utf8_order (a b : Str) : bytesLt (encode a) (encode b) = strLt a b :=
  JL.Lemmas.Utf8.bytesLt_encode a b

/-- the same for `<=`: Rust's `f <= s` on `String`s is `!(s < f)` on the bytes -/
theorem utf8_order_le (a b : Str) : (!bytesLt (encode b) (encode a)) = strLe a b := by
  rw [utf8_order, strLe]

/-- the encoding is injective, so equality of the byte buffers (`String: Eq`) is equality of the models -/
theorem utf8_injective (a b : Str) : encode a = encode b ↔ a = b :=
  ⟨JL.Lemmas.Utf8.encode_injective a b, fun h => h ▸ rfl⟩

/-- one scalar value: a smaller code point has the smaller encoding, in 1 to 4 bytes, whatever follows -/
theorem utf8_order_char (c d : Char) (x y : List Nat) (h : c.val < d.val) :
    bytesLt (encodeChar c ++ x) (encodeChar d ++ y) = true :=
  JL.Lemmas.Utf8.bytesLt_encodeChar c d h x y

/-- every element of an encoding is below 256 (`Spec/Utf8` keeps bytes as `Nat`s) -/
theorem utf8_bytes (s : Str) : ∀ b ∈ encode s, b < 256 := by
  intro b hb
  simp only [encode, List.mem_flatMap] at hb
  obtain ⟨c, -, hb⟩ := hb
  exact JL.Lemmas.Utf8.encodeNat_byte _ (char_lt_bound c) b hb

/-- the four relational operators on string-like operands, in terms of the BYTES Rust compares
(joined with `lt_strings`) -/
theorem lt_strings_bytes (a b : Json) (s t : Str)
    (ha : JL.Spec.ES.toPrimitive a = .string s) (hb : JL.Spec.ES.toPrimitive b = .string t) :
    abstractLt a b = bytesLt (encode s) (encode t) ∧ abstractLte a b = !bytesLt (encode t) (encode s) ∧
    abstractGt a b = bytesLt (encode t) (encode s) ∧ abstractGte a b = !bytesLt (encode s) (encode t) := by
  obtain ⟨h1, h2, h3, h4⟩ := lt_strings a b s t ha hb
  rw [h1, h2, h3, h4]
  simp [utf8_order, strLe]

/-! ## non-vacuity: the boundaries between the length classes, and mixed lengths -/

private def s (ns : List Nat) : Str := ns.map Char.ofNat

-- U+7F (7F) < U+80 (C2 80)
example : encode (s [0x7F]) = [0x7F] ∧ encode (s [0x80]) = [0xC2, 0x80] := by decide +kernel
example : bytesLt (encode (s [0x7F])) (encode (s [0x80])) = true ∧ strLt (s [0x7F]) (s [0x80]) = true := by decide +kernel
example : bytesLt (encode (s [0x80])) (encode (s [0x7F])) = false ∧ strLt (s [0x80]) (s [0x7F]) = false := by decide +kernel
-- U+7FF (DF BF) < U+800 (E0 A0 80)
example : encode (s [0x7FF]) = [0xDF, 0xBF] ∧ encode (s [0x800]) = [0xE0, 0xA0, 0x80] := by decide +kernel
example : bytesLt (encode (s [0x7FF])) (encode (s [0x800])) = true ∧ strLt (s [0x7FF]) (s [0x800]) = true := by decide +kernel
example : bytesLt (encode (s [0x800])) (encode (s [0x7FF])) = false ∧ strLt (s [0x800]) (s [0x7FF]) = false := by decide +kernel
-- U+FFFF (EF BF BF) < U+10000 (F0 90 80 80): code points and bytes agree (UTF-16 code units would NOT)
example : encode (s [0xFFFF]) = [0xEF, 0xBF, 0xBF] ∧ encode (s [0x10000]) = [0xF0, 0x90, 0x80, 0x80] := by decide +kernel
example : bytesLt (encode (s [0xFFFF])) (encode (s [0x10000])) = true ∧ strLt (s [0xFFFF]) (s [0x10000]) = true := by
  decide +kernel
example : bytesLt (encode (s [0x10000])) (encode (s [0xFFFF])) = false ∧ strLt (s [0x10000]) (s [0xFFFF]) = false := by
  decide +kernel
-- around the surrogate gap, and the last scalar value
example : bytesLt (encode (s [0xD7FF])) (encode (s [0xE000])) = true ∧ strLt (s [0xD7FF]) (s [0xE000]) = true := by decide +kernel
example : bytesLt (encode (s [0xFFFF])) (encode (s [0x10FFFF])) = true ∧ strLt (s [0xFFFF]) (s [0x10FFFF]) = true := by
  decide +kernel
-- proper prefix, common prefix with multi-byte characters, difference in a continuation byte only
example : bytesLt (encode "é€".toList) (encode "é€😀".toList) = true ∧ strLt "é€".toList "é€😀".toList = true := by decide +kernel
example : bytesLt (encode "é€😀".toList) (encode "é€".toList) = false ∧ strLt "é€😀".toList "é€".toList = false := by decide +kernel
example : bytesLt (encode "aé😀".toList) (encode "aé😁".toList) = true ∧ strLt "aé😀".toList "aé😁".toList = true := by decide +kernel
example : bytesLt (encode "z".toList) (encode "é".toList) = true ∧ strLt "z".toList "é".toList = true := by decide +kernel
example : bytesLt (encode "€".toList) (encode "😀".toList) = true ∧ bytesLt (encode "😀".toList) (encode "€".toList) = false := by
  decide +kernel
example : bytesLt (encode "é€".toList) (encode "é€".toList) = false ∧ strLt "é€".toList "é€".toList = false := by decide +kernel
-- through the evaluator's operator, on operands that are strings
example : abstractLt (.str (s [0xFFFF])) (.str (s [0x10000])) = bytesLt (encode (s [0xFFFF])) (encode (s [0x10000])) :=
  (lt_strings_bytes (.str (s [0xFFFF])) (.str (s [0x10000])) (s [0xFFFF]) (s [0x10000]) rfl rfl).1
example : abstractLt (.str (s [0xFFFF])) (.str (s [0x10000])) = true := by decide +kernel

end JL.Props.C09
