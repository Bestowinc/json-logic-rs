import JL.Lemmas.C09
import JL.Eval
/-!
# C07 — `==` / `!=` implement ECMAScript abstract equality on JSON values

`abstract_eq_es` is the main statement: the model of `js_op::abstract_eq` equals IsLooselyEqual
(ECMA-262 7.2.14) as formalised in `JL/Spec/ES.lean`, for all 36 pairs of JSON constructors, with
`JsOp.strToNumber` as StringToNumber (its agreement with the StringNumericLiteral grammar is
`str_to_number_es` in `Props/C07Num`; `Props/C07Final` joins the two: `abstract_eq_ecmascript`). No well-formedness
hypothesis is needed.

Both sides are brought to one closed form: the shape of the relational operators (`relBody` for the crate,
`primRel` for the standard) with equality of strings and of doubles, and'ed with `eqGuard`.
-/
namespace JL.Props.C07
open JL Json JsOp JL.Lemmas.C07 JL.Lemmas.C09 JL.Lemmas.F64Order
open JL.Spec (ES.looselyEqual ES.ofJson ES.strictlyEqual ES.toNumber ES.toStr)
open JL.Spec.ES (looseFuel strictlyEqual ofJson)

/-! ## model = ECMA-262 -/

attribute [local irreducible] strToNumber in
/-- `abstract_eq` in closed form: the shape of the relational operators, with equality of strings and `f64 ==`,
except that null equals only null and two containers are never equal. Each of the 36 constructor pairs runs
through the arms of `abstract_eq` by unfolding (which StringToNumber it is plays no role, and unfolding it
on a stuck argument is what would make `rfl` slow). -/
theorem abstractEq_closed (a b : Json) : abstractEq a b =
    (eqGuard (ofJson a) (ofJson b) && relBody (fun s t => s == t) F64.eq (JsOp.toPrimitive a) (JsOp.toPrimitive b)) := by
  cases a <;> cases b <;> try rfl
  exact (eq_bools _ _).symm  -- two Booleans: `x == y` against 1 and +0 compared as doubles

/-- the crate's arm compares strings with `==`, which on `List Char` is `List.beq`; the specification says `decide (s = t)` -/
theorem beq_eq_decide : (fun s t : Str => s == t) = fun s t => decide (s = t) :=
  funext fun s => funext fun t => by rw [Bool.eq_iff_iff, beq_iff_eq, decide_eq_true_iff]

/-- `==` returns what ECMAScript IsLooselyEqual returns, for all pairs of JSON values -/
theorem abstract_eq_es (a b : Json) : abstractEq a b = ES.looselyEqual strToNumber a b := by
  rw [abstractEq_closed, relBody_es eq_nan, beq_eq_decide, looselyEqual_eq]

/-- `!=` returns the negation of IsLooselyEqual (13.11.1: `r` is IsLooselyEqual; "if r is true, return false") -/
theorem abstract_ne_es (a b : Json) : abstractNe a b = !ES.looselyEqual strToNumber a b := by
  rw [← abstract_eq_es]; rfl

/-- the same with any function proved equal to `strToNumber` (the grammar-level StringToNumber) plugged in -/
theorem abstract_eq_es_of (s2n : Str → Option F64) (h : ∀ s, strToNumber s = s2n s) (a b : Json) :
    abstractEq a b = ES.looselyEqual s2n a b :=
  funext h ▸ abstract_eq_es a b

/-- the depth budget in the spec's recursion does not cut anything off -/
theorem es_budget_irrelevant (s2n) (n : Nat) (h : 4 ≤ n) (a b : Json) :
    looseFuel s2n n (ofJson a) (ofJson b) = ES.looselyEqual s2n a b := by
  obtain ⟨m, rfl⟩ := Nat.exists_eq_add_of_le' h
  exact looseFuel_stable s2n m _ _

/-- the spec relation itself is symmetric (for any StringToNumber) -/
theorem es_eq_symm (s2n) (a b : Json) : ES.looselyEqual s2n a b = ES.looselyEqual s2n b a := by
  rw [looselyEqual_eq, looselyEqual_eq, eqGuard_comm,
    primRel_symm s2n (fun _ _ => decide_eq_decide.mpr eq_comm) JL.Lemmas.F64Order.eq_symm (ofJson a)]

/-- the string form used for arrays and objects is ECMAScript ToString (Array.prototype.join with
`null` ↦ `""`, `[object Object]`), numbers printed as their JSON text -/
theorem toString_es (v : Json) : JsOp.toString v = ES.toStr v := JL.Lemmas.C07.toString_es v

/-- `js_op::to_number` is ECMAScript ToNumber (`none` = NaN) -/
theorem to_number_es (v : Json) : JsOp.toNumber v = ES.toNumber strToNumber v := toNumber_es v

/-- `===` on two distinct instances is IsStrictlyEqual (7.2.15) -/
theorem strict_eq_es (a b : Json) : strictEq a b = strictlyEqual (ofJson a) (ofJson b) := by
  cases a <;> cases b <;> try rfl
  · exact (numberEqual_eq _ _).symm                -- two numbers: step 2, Number::equal
  · exact congrFun (congrFun beq_eq_decide _) _    -- two strings

/-! ## the sentences of the property, one by one -/

/-- the relation is symmetric, for all 36 type pairs -/
theorem eq_symm (a b : Json) : abstractEq a b = abstractEq b a := by
  rw [abstract_eq_es, abstract_eq_es, es_eq_symm]

/-- `!=` is its exact negation -/
theorem ne_not_eq (a b : Json) : abstractNe a b = !abstractEq a b := rfl

/-- null equals only null -/
theorem null_eq (b : Json) : abstractEq .null b = true ↔ b = .null := by
  constructor
  · intro h; cases b <;> first | rfl | cases h
  · rintro rfl; rfl

/-- arrays and objects never equal one another -/
theorem containers_never (a b : Json) (ha : (∃ xs, a = .arr xs) ∨ (∃ kvs, a = .obj kvs)) (hb : (∃ xs, b = .arr xs) ∨ (∃ kvs, b = .obj kvs)) :
    abstractEq a b = false := by
  rcases ha with ⟨xs, rfl⟩ | ⟨kvs, rfl⟩ <;> rcases hb with ⟨ys, rfl⟩ | ⟨kvs', rfl⟩ <;> rfl

/-- booleans are compared with everything else as the numbers 1 and 0 -/
theorem bool_as_number (x : Bool) (b : Json) (hb : ∀ y, b ≠ .bool y) : abstractEq (.bool x) b = abstractEq (boolNum x) b := by
  cases b <;> first | rfl | exact absurd rfl (hb _)

/-- containers meet primitives through their string form -/
theorem arr_vs_prim (xs : List Json) (b : Json) (hb : (∃ s, b = .str s) ∨ (∃ n, b = .num n)) :
    abstractEq (.arr xs) b = abstractEq (.str (JsOp.toString (.arr xs))) b := by
  rcases hb with ⟨s, rfl⟩ | ⟨n, rfl⟩ <;> rfl

/-- objects too -/
theorem obj_vs_prim (kvs : List (Str × Json)) (b : Json) (hb : (∃ s, b = .str s) ∨ (∃ n, b = .num n)) :
    abstractEq (.obj kvs) b = abstractEq (.str "[object Object]".toList) b := by
  rcases hb with ⟨s, rfl⟩ | ⟨n, rfl⟩ <;> rfl

/-- numbers are compared as IEEE doubles (so `1 == 1.0`, `0 == -0`) -/
theorem num_vs_num (m n : Num) : abstractEq (.num m) (.num n) = F64.eq m.toF64 n.toF64 := rfl

attribute [local irreducible] strToNumber in
/-- strings are compared with numbers numerically using StringToNumber; a non-numeric string is NaN, equal to nothing -/
theorem num_vs_str (n : Num) (s : Str) :
    abstractEq (.num n) (.str s) = (match strToNumber s with | some y => F64.eq n.toF64 y | none => false) := rfl

/-- booleans are compared with numbers numerically -/
theorem bool_vs_num (x : Bool) (n : Num) :
    abstractEq (.bool x) (.num n) = F64.eq (if x then F64.one else F64.zero) n.toF64 := rfl

/-- strings are compared with strings by content -/
theorem str_vs_str (s t : Str) : abstractEq (.str s) (.str t) = true ↔ s = t :=
  beq_iff_eq

/-- `==` is weaker than `===` and differs from it only on pairs of different type -/
theorem eq_same_type (a b : Json) (h : (ofJson a).type = (ofJson b).type) : abstractEq a b = strictEq a b := by
  rw [abstract_eq_es, strict_eq_es]
  exact if_pos h

/-! ## operator level -/

/-- extra operands are ignored (the operator table allows exactly two, C03) -/
theorem op_eq_more (a b : Json) (rest : List Json) :
    execEager "==".toList (a :: b :: rest) = ⟨[], .ok (.bool (abstractEq a b))⟩ := by
  unfold execEager; simp only [↓reduceIte]; rfl
theorem op_ne_more (a b : Json) (rest : List Json) :
    execEager "!=".toList (a :: b :: rest) = ⟨[], .ok (.bool (!abstractEq a b))⟩ := by
  unfold execEager; simp only [↓reduceIte, String.toList_inj, String.reduceEq]; rfl

theorem op_eq (a b : Json) : execEager "==".toList [a, b] = ⟨[], .ok (.bool (abstractEq a b))⟩ := op_eq_more a b []
theorem op_ne (a b : Json) : execEager "!=".toList [a, b] = ⟨[], .ok (.bool (!abstractEq a b))⟩ := op_ne_more a b []

/-- `{"==":[a,b]}` on evaluated operands is ECMAScript `a == b` -/
theorem op_eq_es (a b : Json) :
    execEager "==".toList [a, b] = ⟨[], .ok (.bool (ES.looselyEqual strToNumber a b))⟩ := by
  rw [op_eq, abstract_eq_es]
/-- `{"!=":[a,b]}` on evaluated operands is ECMAScript `a != b` -/
theorem op_ne_es (a b : Json) :
    execEager "!=".toList [a, b] = ⟨[], .ok (.bool (!ES.looselyEqual strToNumber a b))⟩ := by
  rw [op_ne, abstract_eq_es]
/-- the operator is symmetric -/
theorem op_eq_symm (a b : Json) : execEager "==".toList [a, b] = execEager "==".toList [b, a] := by
  rw [op_eq, op_eq, eq_symm]
/-- `!=` is the negation of `==` at operator level -/
theorem op_ne_not_eq (a b : Json) (r : Bool) (h : execEager "==".toList [a, b] = ⟨[], .ok (.bool r)⟩) :
    execEager "!=".toList [a, b] = ⟨[], .ok (.bool (!r))⟩ := by
  rw [op_eq] at h
  cases h
  exact op_ne a b

/-! ## corner cases (both the model and the spec, evaluated in the kernel) -/
section examples
private def s (x : String) : Json := .str x.toList
private def n (k : Nat) : Json := .num (.pos k)

-- surrounding whitespace ignored
example : abstractEq (s " 1 ") (n 1) = true := by decide +kernel
example : ES.looselyEqual strToNumber (s " 1 ") (n 1) = true := by decide +kernel
example : abstractEq (s "\t\n1\u00a0\ufeff") (n 1) = true := by decide +kernel
-- hex / octal / binary prefixes honoured
example : abstractEq (s "0x10") (n 16) = true := by decide +kernel
example : ES.looselyEqual strToNumber (s "0x10") (n 16) = true := by decide +kernel
example : abstractEq (s "0o17") (n 15) = true ∧ abstractEq (s "0b101") (n 5) = true := by decide +kernel
-- "" is 0, and so are [] and null-only arrays through their string form; null is not
example : abstractEq (s "") (n 0) = true := by decide +kernel
example : abstractEq (.arr []) (n 0) = true ∧ abstractEq (.arr [.null]) (n 0) = true := by decide +kernel
example : abstractEq .null (n 0) = false ∧ abstractEq .null (.bool false) = false ∧ abstractEq .null (s "") = false := by decide +kernel
-- only `Infinity` spelled that way; anything else non-numeric
example : abstractEq (s "inf") (s "inf") = true := by decide +kernel
example : strToNumber "inf".toList = none ∧ strToNumber "infinity".toList = none ∧ strToNumber "nan".toList = none ∧
    strToNumber "Infinity".toList = some (.inf false) ∧ strToNumber "-Infinity".toList = some (.inf true) := by decide +kernel
example : abstractEq (s "1_0") (n 10) = false ∧ abstractEq (s "1e") (n 1) = false ∧ abstractEq (s "0x") (n 0) = false := by decide +kernel
-- booleans numerically; 1 == 1.0; 0 == -0
example : abstractEq (.bool true) (n 1) = true ∧ abstractEq (.bool true) (s "1") = true ∧ abstractEq (.bool false) (s "") = true ∧
    abstractEq (.bool true) (s "true") = false := by decide +kernel
example : abstractEq (n 1) (.num (.flt F64.one)) = true ∧ abstractEq (n 0) (.num (.flt (.fin true 0))) = true := by decide +kernel
-- arrays / objects through their string form; never equal one another
example : abstractEq (.arr [n 1]) (n 1) = true ∧ abstractEq (.arr [n 1, n 2]) (s "1,2") = true ∧
    abstractEq (.obj []) (s "[object Object]") = true ∧ abstractEq (.arr [.arr [n 7]]) (.bool false) = false := by decide +kernel
example : abstractEq (.arr []) (.arr []) = false ∧ abstractEq (.obj []) (.obj []) = false ∧ abstractEq (.arr [n 1]) (.arr [n 1]) = false := by decide +kernel
example : ES.looselyEqual strToNumber (.arr [n 1]) (.arr [n 1]) = false ∧ ES.looselyEqual strToNumber (.arr [.null]) (.bool false) = true := by decide +kernel
-- the longest chain of the standard (Boolean vs Object) needs exactly the budget 4
example : looseFuel strToNumber 4 (ofJson (.bool true)) (ofJson (.arr [n 1])) = true ∧
    looseFuel strToNumber 3 (ofJson (.bool true)) (ofJson (.arr [n 1])) = false := by decide +kernel
-- ToString of a nested array
example : ES.toStr (.arr [n 1, .null, .arr [n 2, .arr []], s "x", .obj []]) = "1,,2,,x,[object Object]".toList := by decide +kernel
end examples

end JL.Props.C07
