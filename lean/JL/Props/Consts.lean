import JL.Generated.Consts
import JL.StrArr
/-!
# Tie theorems: the constants the model hard-codes are the ones that stand in the source *now*

`JL/Generated/Consts.lean` is regenerated from `/repo/src/js_op.rs`, `src/value.rs`, `src/op/array.rs` on every run. Each theorem
below says "if the translator still finds the construct, its value is the one the model uses"; an edit of the constant in the
source makes the theorem fail to check on the next run. (When the construct is no longer found the statement is vacuous and the
tie for it is the correspondence check alone — recorded in the evidence.)
-/
namespace JL.Props.Consts
open JL

def inRanges (rs : List (Nat × Nat)) (n : Nat) : Bool := rs.any (fun r => r.1 ≤ n && n ≤ r.2)

/-- a set of ranges lies inside another when each of its points does (the ranges are short: evaluate) -/
theorem inRanges_subset {rs ms : List (Nat × Nat)}
    (h : ∀ r ∈ rs, ∀ i ∈ List.range' r.1 (r.2 + 1 - r.1), inRanges ms i = true) {n : Nat}
    (hn : inRanges rs n = true) : inRanges ms n = true := by
  obtain ⟨r, hr, hn⟩ := List.any_eq_true.mp hn
  rw [Bool.and_eq_true, decide_eq_true_eq, decide_eq_true_eq] at hn
  exact h r hr n (List.mem_range'_1.mpr ⟨hn.1, by omega⟩)

theorem beq_eq_range (n a : Nat) : (n == a) = (decide (a ≤ n) && decide (n ≤ a)) := by
  rw [Bool.eq_iff_iff]; simp only [beq_iff_eq, Bool.and_eq_true, decide_eq_true_eq]; omega

/-- the whitespace set of `is_js_whitespace` in the source is the model's `isJsWhitespace` (which `JL.Lemmas.StrNum.ws_eq`
proves equal to ECMA-262's StrWhiteSpaceChar) -/
theorem whitespace_tie (rs : List (Nat × Nat)) (h : Consts.jsWhitespace = some rs) (c : Char) :
    inRanges rs c.toNat = JsOp.isJsWhitespace c := by
  cases h
  -- the model's test is a list of ranges as it stands; the source's list has the same points, however it is cut into ranges
  have hm : JsOp.isJsWhitespace c = inRanges [(9, 13), (0x20, 0x20), (0xA0, 0xA0), (0x1680, 0x1680), (0x2000, 0x200A),
      (0x2028, 0x2028), (0x2029, 0x2029), (0x202F, 0x202F), (0x205F, 0x205F), (0x3000, 0x3000), (0xFEFF, 0xFEFF)] c.toNat := by
    simp only [JsOp.isJsWhitespace, inRanges, List.any, beq_eq_range, Bool.or_assoc, Bool.or_false]
  exact (Bool.eq_iff_iff.mpr ⟨inRanges_subset (by decide +kernel), inRanges_subset (by decide +kernel)⟩).trans hm.symm

/-- the range limits of `to_number_value` in the source are 2^63 and 2^64 -/
theorem i64_limit_tie (d : Nat) (e : Int) (h : Consts.i64Limit = some (d, e)) : F64.ofDecimal false d e = I64_LIMIT := by
  cases h
  decide +kernel

theorem u64_limit_tie (d : Nat) (e : Int) (h : Consts.u64Limit = some (d, e)) : F64.ofDecimal false d e = U64_LIMIT := by
  cases h
  decide +kernel

/-- the exact-integer threshold of `number_eq` in the source is the model's `F1e30` -/
theorem in_int_limit_tie (d : Nat) (e : Int) (h : Consts.inIntLimit = some (d, e)) : F64.ofDecimal false d e = ArrOp.F1e30 := by
  cases h
  decide +kernel

end JL.Props.Consts
