import JL.Wrap
/-!
# C18 — the `jsonlogic` command is a faithful, chainable wrapper of the library
-/
namespace JL.Props.C18
open JL Json Wrap

variable (parse : Str → Option Json) (ser : Json → Str)

/-- success: after the `log` lines, exactly one line holding the serialisation of the library's result; exit 0 -/
theorem cli_success (logic : Str) (arg : Option Str) (stdin : Str) (r d v : Json)
    (hr : parse logic = some r) (hd : parse (dataText arg stdin) = some d) (hv : (apply r d).out = .ok v) :
    cli parse ser logic arg stdin = ⟨(apply r d).logs.map ser ++ [ser v], true⟩ := by
  simp [cli, cliEval, hr, hd, hv]

/-- exit 0 iff both texts parse and evaluation yields a value; otherwise no result line is printed
(standard output holds at most the `log` lines written before the failure) -/
theorem cli_exit_iff (logic : Str) (arg : Option Str) (stdin : Str) :
    (cli parse ser logic arg stdin).exitZero = true ↔
      ∃ r d v, parse logic = some r ∧ parse (dataText arg stdin) = some d ∧ (apply r d).out = .ok v := by
  unfold cli
  cases hr : parse logic with
  | none => simp
  | some r =>
    cases hd : parse (dataText arg stdin) with
    | none => simp
    | some d =>
      cases hv : (apply r d).out <;> simp [cliEval, hv]

/-- on a non-zero exit standard output is empty, or holds only the `log` lines written before the evaluation failed -/
theorem cli_failure_no_result (logic : Str) (arg : Option Str) (stdin : Str)
    (h : (cli parse ser logic arg stdin).exitZero = false) :
    (cli parse ser logic arg stdin).stdout = [] ∨
      ∃ r d, parse logic = some r ∧ parse (dataText arg stdin) = some d ∧ (cli parse ser logic arg stdin).stdout = (apply r d).logs.map ser := by
  unfold cli at h ⊢
  cases hr : parse logic with
  | none => simp
  | some r =>
    cases hd : parse (dataText arg stdin) with
    | none => simp
    | some d =>
      right
      refine ⟨r, d, rfl, rfl, ?_⟩
      cases hv : (apply r d).out <;> simp_all [cliEval]

/-- the three ways of supplying the data give the same outcome for the same text -/
theorem data_modes (logic t : Str) (ht : t ≠ "-".toList) (other : Str) :
    cli parse ser logic (some t) other = cli parse ser logic none t ∧
    cli parse ser logic none t = cli parse ser logic (some "-".toList) t := by
  refine ⟨?_, ?_⟩ <;> simp only [cli, dataText, if_neg ht, ↓reduceIte]

/-- chaining: piping invocation 1 into invocation 2 computes `apply r₂` on **the parsed output of the first** —
whatever value `w` the parser makes of the printed line (the codec need not round-trip: serde_json without `float_roundtrip`
does not re-read every float it prints) -/
theorem chain (l₁ l₂ : Str) (arg : Option Str) (stdin : Str) (r₁ d₁ v₁ r₂ w : Json)
    (h1 : parse l₁ = some r₁) (hd : parse (dataText arg stdin) = some d₁) (hv : (apply r₁ d₁).out = .ok v₁)
    (hlogs : (apply r₁ d₁).logs = []) (hrt : parse (ser v₁) = some w) (h2 : parse l₂ = some r₂) :
    ∃ line, (cli parse ser l₁ arg stdin).stdout = [line] ∧
      cli parse ser l₂ none line = cliEval ser r₂ w := by
  refine ⟨ser v₁, ?_, ?_⟩
  · simp [cli, cliEval, h1, hd, hv, hlogs]
  · simp [cli, dataText, h2, hrt]

/-- with a codec that does round-trip the first result, the chain computes `apply r₂ (result₁)` itself -/
theorem chain_roundtrip (l₁ l₂ : Str) (arg : Option Str) (stdin : Str) (r₁ d₁ v₁ r₂ : Json)
    (h1 : parse l₁ = some r₁) (hd : parse (dataText arg stdin) = some d₁) (hv : (apply r₁ d₁).out = .ok v₁)
    (hlogs : (apply r₁ d₁).logs = []) (hrt : parse (ser v₁) = some v₁) (h2 : parse l₂ = some r₂) :
    ∃ line, (cli parse ser l₁ arg stdin).stdout = [line] ∧ cli parse ser l₂ none line = cliEval ser r₂ v₁ :=
  chain parse ser l₁ l₂ arg stdin r₁ d₁ v₁ r₂ v₁ h1 hd hv hlogs hrt h2

/-- if the printed line does not parse at all, the second invocation fails without a result line -/
theorem chain_unparsable (l₂ line : Str) (h : parse line = none) : cli parse ser l₂ none line = ⟨[], false⟩ := by
  unfold cli
  cases parse l₂ <;> simp [dataText, h]

end JL.Props.C18
