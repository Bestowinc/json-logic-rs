import JL.Props.C15
import JL.Lemmas.Utf8
/-!
# C15 / `in` on strings — the model's character-level infix test IS Rust's byte-level `contains`

`JL/Basic.lean` models `haystack.contains(needle)` (a search for the needle's UTF-8 bytes in the haystack's UTF-8 bytes)
as `isInfix`, an infix test on `List Char`. This file removes that modelling assumption: with UTF-8 defined from the
RFC 3629 table (`JL/Spec/Utf8.lean`), a byte-level occurrence of an encoded needle in an encoded haystack exists exactly
when a character-level one does (UTF-8 is self-synchronising and prefix-free).
-/
namespace JL.Props.C15
open JL Json ArrOp JL.Spec.Utf8

/-- where a byte-level occurrence of a well-formed NON-EMPTY needle can be: only at a character boundary — the bytes
before it and the bytes after it are the encodings of the characters before and after a character-level occurrence -/
theorem utf8_occurrence (c : Char) (n h : Str) (pre suf : List Nat) (e : encode h = pre ++ encode (c :: n) ++ suf) :
    ∃ p s, h = p ++ (c :: n) ++ s ∧ pre = encode p ∧ suf = encode s :=
  JL.Lemmas.Utf8.encode_infix c n h pre suf e

/-- UTF-8 is self-synchronising: the encoded needle occurs in the encoded haystack as a run of bytes
(Rust's `contains`) iff the needle occurs in the haystack as a run of characters (the model's `isInfix`) -/
theorem utf8_infix (n h : Str) : bytesInfix (encode n) (encode h) ↔ (isInfix n h = true) := by
  rw [isInfix_spec]
  constructor
  · rintro ⟨pre, suf, e⟩
    cases n with
    | nil => exact ⟨[], h, rfl⟩
    | cons c n =>
      obtain ⟨p, s, hh, -, -⟩ := utf8_occurrence c n h pre suf e
      exact ⟨p, s, hh⟩
  · rintro ⟨p, s, rfl⟩
    exact ⟨encode p, encode s, by simp only [JL.Lemmas.Utf8.encode_append]⟩

/-- `in` on two strings, in terms of the BYTES Rust searches (joined with `in_str`) -/
theorem in_str_bytes (n h : Str) : in_ (.str n) (.str h) = some true ↔ bytesInfix (encode n) (encode h) := by
  rw [in_str, Option.some.injEq, utf8_infix]

theorem in_str_bytes_false (n h : Str) : in_ (.str n) (.str h) = some false ↔ ¬ bytesInfix (encode n) (encode h) := by
  rw [in_str, Option.some.injEq, utf8_infix]; simp

/-! ## non-vacuity -/

private def s (ns : List Nat) : Str := ns.map Char.ofNat

-- a needle of 2-, 3- and 4-byte characters inside a haystack: both sides hold
example : isInfix "é€😀".toList "aé€😀b".toList = true := by decide +kernel
example : bytesInfix (encode "é€😀".toList) (encode "aé€😀b".toList) :=
  ⟨[0x61], [0x62], by decide +kernel⟩
example : bytesInfix (encode "é€😀".toList) (encode "aé€😀b".toList) := (utf8_infix _ _).mpr (by decide +kernel)
-- boundary characters U+7F/U+80, U+7FF/U+800, U+FFFF/U+10000
example : isInfix (s [0x80, 0x7FF]) (s [0x7F, 0x80, 0x7FF, 0x800]) = true := by decide +kernel
example : bytesInfix (encode (s [0x80, 0x7FF])) (encode (s [0x7F, 0x80, 0x7FF, 0x800])) :=
  ⟨[0x7F], [0xE0, 0xA0, 0x80], by decide +kernel⟩
example : isInfix (s [0xFFFF, 0x10000]) (s [0x800, 0xFFFF, 0x10000, 0x7F]) = true := by decide +kernel
example : bytesInfix (encode (s [0xFFFF, 0x10000])) (encode (s [0x800, 0xFFFF, 0x10000, 0x7F])) :=
  ⟨[0xE0, 0xA0, 0x80], [0x7F], by decide +kernel⟩
-- sharing continuation bytes with another character is never a match:
-- `©` = C2 A9 shares its last byte with `é` = C3 A9; `€` = E2 82 AC contains the byte 82, the last byte of U+82 = C2 82
example : isInfix "©".toList "é".toList = false := by decide +kernel
example : ¬ bytesInfix (encode "©".toList) (encode "é".toList) := (in_str_bytes_false _ _).mp (by decide +kernel)
example : ¬ bytesInfix (encode (s [0x82])) (encode "€".toList) := fun h => by
  have := (utf8_infix _ _).mp h; revert this; decide
-- the empty needle
example : bytesInfix (encode []) (encode "é".toList) ∧ isInfix [] "é".toList = true := ⟨⟨[], [0xC3, 0xA9], by decide +kernel⟩, by decide +kernel⟩
-- the premise of `utf8_occurrence` is met by a real occurrence
example : encode "a€😀".toList = [0x61] ++ encode ('€' :: []) ++ [0xF0, 0x9F, 0x98, 0x80] := by decide +kernel

end JL.Props.C15
