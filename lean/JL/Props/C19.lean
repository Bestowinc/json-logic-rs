import JL.Wrap
/-!
# C19 — the Python module adds only JSON (de)serialisation around the library
-/
namespace JL.Props.C19
open JL Json Wrap

variable {α : Type} (parse : Str → Option Json) (ser : Json → Str) (dumps : Json → Str) (loads : Str → α)

/-- `apply(rule, data)` with defaults = decode (library (encode rule) (encode data)); omitted data means null -/
theorem py_apply_spec (value : Json) (data : Option Json) :
    pyApply parse ser dumps loads value data none none =
      (match native parse ser (dumps value) (dumps (data.getD .null)) with
       | .value res => .value (loads res) | .valueError => .valueError | .crash => .crash) := rfl

/-- an omitted `data` argument is `None`, i.e. JSON `null` -/
theorem py_apply_omitted_data (value : Json) :
    pyApply parse ser dumps loads value none none none = pyApply parse ser dumps loads value (some .null) none none := rfl

/-- `apply_serialized` decodes with the standard decoder when none is supplied, and an omitted data means "null" -/
theorem py_serialized_spec (value : Str) (data : Option Str) :
    pyApplySerialized parse ser loads value data none =
      (match native parse ser value (data.getD "null".toList) with
       | .value res => .value (loads res) | .valueError => .valueError | .crash => .crash) := rfl

/-- every library error and every malformed text is `ValueError`; the only way to anything else is a panic of `apply` -/
theorem native_errors (value data : Str) :
    native parse ser value data = .crash ↔ ∃ r d, parse value = some r ∧ parse data = some d ∧ (apply r d).out = .panic := by
  unfold native
  cases hr : parse value with
  | none => simp
  | some r =>
    cases hd : parse data with
    | none => simp
    | some d => cases hv : (apply r d).out <;> simp [hv]

/-- a value comes back exactly when both texts parse and the evaluation succeeds: the serialisation of the result -/
theorem native_value (value data : Str) (res : Str) :
    native parse ser value data = .value res ↔ ∃ r d v, parse value = some r ∧ parse data = some d ∧ (apply r d).out = .ok v ∧ res = ser v := by
  unfold native
  cases hr : parse value with
  | none => simp
  | some r =>
    cases hd : parse data with
    | none => simp
    | some d => cases hv : (apply r d).out <;> simp [hv, eq_comm]

end JL.Props.C19
