import JL.JsOp
/-!
# ECMA-262 semantics on the JSON image of JavaScript values

Written from the text of ECMA-262 (section numbers of the 2024 edition), NOT from the Rust source.
The numbered comments are the steps of the standard's algorithms; steps about `undefined`,
`Symbol`, `BigInt` and `[[IsHTMLDDA]]` have no JSON counterpart and are marked "n/a".

Stipulations of the properties (C07, C09), which deviate from a real engine:
* a Number's string form is its JSON text (only matters inside arrays, through `JsOp.toString`);
* strings are ordered by code point (ECMA-262 orders by UTF-16 code unit);
* every array and object is a distinct instance (so `object == object` is always false).

Everything is parameterised by `s2n : Str → Option F64`, the StringToNumber function
(7.1.4.1.1) with `none` standing for NaN. That grammar is formalised separately and `JsOp.strToNumber`
is proved equal to it; theorems about the model instantiate `s2n := JsOp.strToNumber`.
-/
namespace JL.Spec.ES
open JL

/-! ## language values and types (6.1) -/

/-- the ECMAScript language values a JSON document denotes, plus every Number (NaN, ±∞ included)
since conversions can produce them. `object j` is an Array or plain Object with contents `j`;
its identity is not recorded: any two occurrences are different instances. -/
inductive Val where
  | null
  | boolean (b : Bool)
  | number (x : F64)
  | string (s : Str)
  | object (j : Json)

inductive Ty where
  | Null | Boolean | Number | String | Object
  deriving DecidableEq, Repr

/-- `Type(x)` -/
def Val.type : Val → Ty
  | .null => .Null
  | .boolean _ => .Boolean
  | .number _ => .Number
  | .string _ => .String
  | .object _ => .Object

/-- the JavaScript value of a JSON value (`JSON.parse`) -/
def ofJson : Json → Val
  | .null => .null
  | .bool b => .boolean b
  | .num n => .number n.toF64
  | .str s => .string s
  | .arr xs => .object (.arr xs)
  | .obj kvs => .object (.obj kvs)

/-! ## 7.1 type conversion -/

/-- 7.1.1 ToPrimitive. For an Array or a plain Object there is no `@@toPrimitive`; OrdinaryToPrimitive
with hint number (and default) tries `valueOf` first, which returns the object itself (not a
primitive), then `toString`: `Array.prototype.toString` = `join(",")` with `null` elements as `""`,
`Object.prototype.toString` = `"[object Object]"`. That string form is `JsOp.toString`
(re-derived from ECMA-262 as `toStr` below, theorem `JL.Props.C07.toString_es`). -/
def Val.toPrimitive : Val → Val
  | .object j => .string (JsOp.toString j)
  | v => v

/-- `none` (= NaN in the interface of `s2n`) as a Number -/
def optNumber : Option F64 → F64
  | some x => x
  | none => .nan

/-- a relation on Numbers lifted to the `Option` interface: false as soon as one side is NaN (`none`) -/
def optRel (r : F64 → F64 → Bool) : Option F64 → Option F64 → Bool
  | some x, some y => r x y
  | _, _ => false

section
variable (s2n : Str → Option F64)

/-- 7.1.4 ToNumber -/
def Val.toNumber : Val → F64
  | .null => F64.zero                                 -- Null: +0
  | .boolean true => F64.one                          -- Boolean: 1 / +0
  | .boolean false => F64.zero
  | .number x => x                                    -- Number: itself
  | .string s => optNumber (s2n s)                    -- String: StringToNumber
  | .object j => optNumber (s2n (JsOp.toString j))    -- Object: ToNumber(ToPrimitive(argument, number))

/-- ToPrimitive on a JSON value -/
def toPrimitive (v : Json) : Val := (ofJson v).toPrimitive

/-- ToNumber on a JSON value, in the `Option` interface (`none` = NaN):
null ↦ +0, false ↦ +0, true ↦ 1, number ↦ itself, string ↦ StringToNumber, array/object ↦
StringToNumber of the string form -/
def toNumber : Json → Option F64
  | .null => some F64.zero
  | .bool false => some F64.zero
  | .bool true => some F64.one
  | .num n => some n.toF64
  | .str s => s2n s
  | .arr xs => s2n (JsOp.toString (.arr xs))
  | .obj kvs => s2n (JsOp.toString (.obj kvs))

/-- the two presentations of ToNumber agree -/
theorem toNumber_ofJson (v : Json) : (ofJson v).toNumber s2n = optNumber (toNumber s2n v) := by
  cases v with
  | bool b => cases b <;> rfl
  | _ => rfl

end

/-! ## 6.1.6.1 the Number type -/

/-- ℝ(x) for finite `x`, in units of 2^-1074 -/
def mathValue (neg : Bool) (k : Nat) : Int := if neg then -(k : Int) else k

/-- 6.1.6.1.13 Number::equal -/
def numberEqual (x y : F64) : Bool :=
  if x.isNaN then false                   -- 1
  else if y.isNaN then false              -- 2
  else if x = y then true                 -- 3  x is y
  else if x.isZero && y.isZero then true  -- 4, 5  +0 / -0
  else false                              -- 6

/-- 6.1.6.1.12 Number::lessThan; `none` = undefined -/
def numberLessThan (x y : F64) : Option Bool :=
  if x.isNaN then none                                   -- 1
  else if y.isNaN then none                              -- 2
  else if x = y then some false                          -- 3
  else if x.isZero && y.isZero then some false           -- 4, 5
  else if x = .inf false then some false                 -- 6  x is +∞
  else if y = .inf false then some true                  -- 7  y is +∞
  else if y = .inf true then some false                  -- 8  y is -∞
  else if x = .inf true then some true                   -- 9  x is -∞
  else
    match x, y with                                      -- 10, 11  ℝ(x) < ℝ(y)
    | .fin a j, .fin b k => some (decide (mathValue a j < mathValue b k))
    | _, _ => none   -- unreachable: both are finite here

/-! ## 7.2 comparison -/

/-- 7.2.15 IsStrictlyEqual, every object a distinct instance -/
def strictlyEqual (x y : Val) : Bool :=
  if x.type ≠ y.type then false                       -- 1
  else
    match x, y with
    | .number a, .number b => numberEqual a b         -- 2
    -- 3  SameValueNonNumber
    | .null, .null => true
    | .string s, .string t => decide (s = t)
    | .boolean a, .boolean b => decide (a = b)
    | .object _, .object _ => false                   -- "x is y": never the same instance
    | _, _ => false

section
variable (s2n : Str → Option F64)

/-- 7.2.14 IsLooselyEqual, the recursion of the standard with an explicit depth budget
(`looseFuel_stable`: a budget of 4 is never exhausted) -/
def looseFuel : Nat → Val → Val → Bool
  | 0, _, _ => false
  | n + 1, x, y =>
    if x.type = y.type then strictlyEqual x y                                   -- 1
    -- 2, 3: null / undefined — n/a (null vs null is step 1).  4: [[IsHTMLDDA]] n/a
    else if x.type = .Number ∧ y.type = .String then
      looseFuel n x (.number (y.toNumber s2n))                                   -- 5
    else if x.type = .String ∧ y.type = .Number then
      looseFuel n (.number (x.toNumber s2n)) y                                   -- 6
    -- 7, 8: BigInt n/a
    else if x.type = .Boolean then looseFuel n (.number (x.toNumber s2n)) y      -- 9
    else if y.type = .Boolean then looseFuel n x (.number (y.toNumber s2n))      -- 10
    else if (x.type = .String ∨ x.type = .Number) ∧ y.type = .Object then
      looseFuel n x y.toPrimitive                                                -- 11
    else if x.type = .Object ∧ (y.type = .String ∨ y.type = .Number) then
      looseFuel n x.toPrimitive y                                                -- 12
    -- 13: BigInt n/a
    else false                                                                   -- 14

/-- `x == y` on JavaScript values (longest chain: Boolean vs Object → Number vs Object →
Number vs String → Number vs Number) -/
def Val.looselyEqual (x y : Val) : Bool := looseFuel s2n 4 x y

/-- `a == b` on JSON values -/
def looselyEqual (a b : Json) : Bool := (ofJson a).looselyEqual s2n (ofJson b)

/-- 7.2.13 IsLessThan(x, y); `none` = undefined. (`LeftFirst` only orders side effects of
ToPrimitive, of which there are none here.) -/
def Val.isLessThan (x y : Val) : Option Bool :=
  match x.toPrimitive, y.toPrimitive with                       -- 1, 2
  | .string px, .string py => some (strLt px py)                -- 3  lexicographic (by code point: C09)
  | px, py =>                                                   -- 4  (a, b: BigInt n/a)
      numberLessThan (px.toNumber s2n) (py.toNumber s2n)        --    c, d: ToNumeric; e, f: Number::lessThan

def isLessThan (a b : Json) : Option Bool := (ofJson a).isLessThan s2n (ofJson b)

/-! ## 13.10.1 relational operators: evaluation -/

/-- "if r is undefined, return false; otherwise return r" -/
def undefinedIsFalse : Option Bool → Bool
  | some r => r
  | none => false

/-- "if r is true or undefined, return false; otherwise return true" -/
def falseIsTrue : Option Bool → Bool
  | some true => false
  | none => false
  | some false => true

/-- `a < b`: r = IsLessThan(a, b) -/
def lessThan (a b : Json) : Bool := undefinedIsFalse (isLessThan s2n a b)

/-- `a > b`: r = IsLessThan(b, a, false) -/
def greaterThan (a b : Json) : Bool := undefinedIsFalse (isLessThan s2n b a)

/-- `a <= b`: r = IsLessThan(b, a, false) -/
def lessEq (a b : Json) : Bool := falseIsTrue (isLessThan s2n b a)

/-- `a >= b`: r = IsLessThan(a, b) -/
def greaterEq (a b : Json) : Bool := falseIsTrue (isLessThan s2n a b)

/-! ## "the converted operands are ≤", declaratively -/

/-- `x ≤ y` on Numbers as extended reals: neither is NaN, and `x = -∞`, or `y = +∞`, or both are
finite with ℝ(x) ≤ ℝ(y) (so `-0 ≤ +0` and `+0 ≤ -0`) -/
inductive NumLe : F64 → F64 → Prop
  | negInf_fin (b k) : NumLe (.inf true) (.fin b k)
  | negInf_inf (b) : NumLe (.inf true) (.inf b)
  | fin_posInf (a j) : NumLe (.fin a j) (.inf false)
  | posInf_posInf : NumLe (.inf false) (.inf false)
  | fin_fin (a j b k) : mathValue a j ≤ mathValue b k → NumLe (.fin a j) (.fin b k)

/-- lexicographic `≤` on code points -/
def StrLe (s t : Str) : Prop := strLt s t = true ∨ s = t

/-- the operands of a relational operator after conversion (ToPrimitive with hint number, then
ToNumber unless both are strings) are in the relation ≤ -/
inductive ConvLe : Json → Json → Prop
  | strings {a b s t} : toPrimitive a = .string s → toPrimitive b = .string t → StrLe s t → ConvLe a b
  | numbers {a b x y} : (¬ ∃ s t, toPrimitive a = .string s ∧ toPrimitive b = .string t) →
      toNumber s2n a = some x → toNumber s2n b = some y → NumLe x y → ConvLe a b

end

/-! ## ToString (7.1.17) re-derived, for the record

`JsOp.toString` is used above; this is the same function read off the standard:
`Array.prototype.join` (23.1.3.18) builds `R` left to right, putting the separator before every
element but the first, and the empty string for `undefined`/`null` elements. -/
mutual
def toStr : Json → Str
  | .null => "null".toList
  | .bool b => if b then "true".toList else "false".toList
  | .num n => n.toStr                   -- stipulated: the JSON text
  | .str s => s
  | .obj _ => "[object Object]".toList
  | .arr xs => joinFrom true xs
/-- the loop of `join(",")`; `first` = "k is 0"; a `null` element contributes the empty string -/
def joinFrom : Bool → List Json → Str
  | _, [] => []
  | first, .null :: rest => (if first then [] else [',']) ++ joinFrom false rest
  | first, x :: rest => (if first then [] else [',']) ++ toStr x ++ joinFrom false rest
end

/-! ## corner cases of the standard's algorithms (StringToNumber instantiated with a toy table where one is needed) -/
section examples
private def toy : Str → Option F64 := fun s =>
  if s = [] then some F64.zero else if s = ['1'] then some F64.one else if s = ['I'] then some (.inf false) else none
private def pz : F64 := .fin false 0
private def nz : F64 := .fin true 0

-- Number::equal / Number::lessThan: NaN, signed zeros, infinities
example : numberEqual .nan .nan = false ∧ numberEqual pz nz = true ∧ numberEqual nz pz = true ∧
    numberEqual (.inf false) (.inf false) = true ∧ numberEqual (.inf false) (.inf true) = false ∧
    numberEqual (.fin false 3) (.fin true 3) = false := by decide +kernel
example : numberLessThan .nan pz = none ∧ numberLessThan pz .nan = none ∧ numberLessThan nz pz = some false ∧
    numberLessThan pz nz = some false ∧ numberLessThan (.inf false) (.inf false) = some false ∧
    numberLessThan (.fin false 5) (.inf false) = some true ∧ numberLessThan (.fin false 5) (.inf true) = some false ∧
    numberLessThan (.inf true) (.fin true 5) = some true ∧ numberLessThan (.fin true 5) (.fin false 2) = some true ∧
    numberLessThan (.fin true 2) (.fin true 5) = some false := by decide +kernel
-- null == null only; null is not 0, "" or false
example : looselyEqual toy .null .null = true ∧ looselyEqual toy .null (.bool false) = false ∧
    looselyEqual toy .null (.str []) = false ∧ looselyEqual toy (.arr []) .null = false := by decide +kernel
-- "" == false, [] == false, [] == "", "1" == true, {} != true; [] != [], {} != {}
example : looselyEqual toy (.str []) (.bool false) = true ∧ looselyEqual toy (.arr []) (.bool false) = true ∧
    looselyEqual toy (.arr []) (.str []) = true ∧ looselyEqual toy (.str ['1']) (.bool true) = true ∧
    looselyEqual toy (.obj []) (.bool true) = false ∧ looselyEqual toy (.arr []) (.arr []) = false ∧
    looselyEqual toy (.obj []) (.obj []) = false := by decide +kernel
-- a NaN conversion equals nothing; `"x" == "x"` is still true (no conversion between strings)
example : looselyEqual toy (.str ['x']) (.bool false) = false ∧ looselyEqual toy (.str ['x']) (.str ['x']) = true := by decide +kernel
-- relational: undefined ↦ false for all four operators; null <= false; [] <= [] and {} >= {}
example : lessThan toy (.str ['x']) (.bool true) = false ∧ lessEq toy (.str ['x']) (.bool true) = false ∧
    greaterThan toy (.str ['x']) (.bool true) = false ∧ greaterEq toy (.str ['x']) (.bool true) = false := by decide +kernel
example : lessEq toy .null (.bool false) = true ∧ greaterEq toy .null (.bool false) = true ∧ lessThan toy .null (.bool false) = false ∧
    lessEq toy (.arr []) (.arr []) = true ∧ greaterEq toy (.obj []) (.obj []) = true ∧ lessThan toy (.bool true) (.str ['I']) = true := by
  decide +kernel
end examples

end JL.Spec.ES
