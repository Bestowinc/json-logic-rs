import JL.Basic
/-!
# UTF-8 (RFC 3629), written from the RFC's bit-layout table

Rust's `String` is a UTF-8 byte buffer; `String: Ord` compares the byte slices and `str::contains(&str)` searches the
needle's bytes in the haystack's bytes. The model (`JL/Basic.lean`) works on `List Char`. This file defines the encoding
and the two byte-level operations independently of Lean's `String` internals, so that `JL/Props/C09Utf8.lean` and
`JL/Props/C15Utf8.lean` can prove that the model's code-point-level `strLt` / `isInfix` agree with them.

RFC 3629 §3:

```
Char. number range  |        UTF-8 octet sequence
   (hexadecimal)    |              (binary)
--------------------+---------------------------------------------
0000 0000-0000 007F | 0xxxxxxx
0000 0080-0000 07FF | 110xxxxx 10xxxxxx
0000 0800-0000 FFFF | 1110xxxx 10xxxxxx 10xxxxxx
0001 0000-0010 FFFF | 11110xxx 10xxxxxx 10xxxxxx 10xxxxxx
```

Bytes are `Nat`s (all values produced are `< 256`, see `JL.Lemmas.Utf8.encodeNat_byte`).
-/
namespace JL.Spec.Utf8
open JL

/-- the RFC 3629 table on a scalar value given as a natural number: the `x` bits are filled from the binary
expansion of `n`, most significant first, six bits per continuation byte -/
def encodeNat (n : Nat) : List Nat :=
  if n < 0x80 then [n]
  else if n < 0x800 then [0xC0 + n / 0x40, 0x80 + n % 0x40]
  else if n < 0x10000 then [0xE0 + n / 0x1000, 0x80 + n / 0x40 % 0x40, 0x80 + n % 0x40]
  else [0xF0 + n / 0x40000, 0x80 + n / 0x1000 % 0x40, 0x80 + n / 0x40 % 0x40, 0x80 + n % 0x40]

/-- UTF-8 encoding of one Unicode scalar value -/
def encodeChar (c : Char) : List Nat := encodeNat c.val.toNat

/-- UTF-8 encoding of a string: what a Rust `String` holds -/
def encode (s : Str) : List Nat := s.flatMap encodeChar

/-- lexicographic `<` on byte sequences, a proper prefix being smaller: `<[u8] as Ord>::cmp(..) == Less`,
which is `String`'s ordering -/
def bytesLt : List Nat → List Nat → Bool
  | _, [] => false
  | [], _ :: _ => true
  | a :: as, b :: bs => decide (a < b) || (a == b && bytesLt as bs)

/-- the needle occurs as a contiguous run of bytes of the haystack: `haystack.contains(needle)` -/
def bytesInfix (needle hay : List Nat) : Prop := ∃ pre suf, hay = pre ++ needle ++ suf

/-- a continuation byte `10xxxxxx` -/
def isCont (b : Nat) : Prop := 0x80 ≤ b ∧ b < 0xC0

instance (b : Nat) : Decidable (isCont b) := by unfold isCont; infer_instance

/-! ## Sanity: known encodings, and agreement with core's encoder -/

example : encodeChar 'a' = [0x61] := by decide +kernel
example : encodeChar 'é' = [0xC3, 0xA9] := by decide +kernel
example : encodeChar '€' = [0xE2, 0x82, 0xAC] := by decide +kernel
example : encodeChar '😀' = [0xF0, 0x9F, 0x98, 0x80] := by decide +kernel
example : encodeChar (Char.ofNat 0x7F) = [0x7F] := by decide +kernel
example : encodeChar (Char.ofNat 0x80) = [0xC2, 0x80] := by decide +kernel
example : encodeChar (Char.ofNat 0x7FF) = [0xDF, 0xBF] := by decide +kernel
example : encodeChar (Char.ofNat 0x800) = [0xE0, 0xA0, 0x80] := by decide +kernel
example : encodeChar (Char.ofNat 0xFFFF) = [0xEF, 0xBF, 0xBF] := by decide +kernel
example : encodeChar (Char.ofNat 0x10000) = [0xF0, 0x90, 0x80, 0x80] := by decide +kernel
example : encodeChar (Char.ofNat 0x10FFFF) = [0xF4, 0x8F, 0xBF, 0xBF] := by decide +kernel
example : encode "aé€😀".toList = [0x61, 0xC3, 0xA9, 0xE2, 0x82, 0xAC, 0xF0, 0x9F, 0x98, 0x80] := by decide +kernel
example : encode "aé€😀".toList = "aé€😀".toUTF8.toList.map (·.toNat) := by decide +kernel

theorem char_lt_bound (c : Char) : c.val.toNat < 0x110000 := by
  have hv := c.valid
  simp only [UInt32.isValidChar, Nat.isValidChar] at hv
  omega

/-- the definition above is core Lean's UTF-8 encoder (which is what `String.toUTF8` is specified by) -/
theorem encodeChar_eq_core (c : Char) : encodeChar c = (String.utf8EncodeChar c).map (·.toNat) := by
  have hn : c.val.toNat < 0x40000 * 0x08 := Nat.lt_trans (char_lt_bound c) (by decide)
  -- core masks the payload of the lead byte and truncates every byte to eight bits: neither changes anything
  have lead (A W q : Nat) (hq : q < W) (hA : A + W ≤ 256) : (q % W + A) % 2 ^ 8 = A + q := by
    rw [Nat.mod_eq_of_lt hq, Nat.mod_eq_of_lt (by omega), Nat.add_comm]
  have cont (x : Nat) : (x % 64 + 128) % 2 ^ 8 = 0x80 + x % 0x40 := by omega
  simp only [encodeChar, encodeNat, String.utf8EncodeChar, List.map_cons, List.map_nil, UInt8.toNat_ofNat', cont,
    apply_ite (List.map _)]
  generalize c.val.toNat = n at hn ⊢
  by_cases h1 : n < 0x80
  · rw [if_pos h1, if_pos (Nat.le_of_lt_succ h1), Nat.mod_eq_of_lt (Nat.lt_trans h1 (by decide))]
  rw [if_neg h1, if_neg (mt Nat.lt_succ_of_le h1)]
  by_cases h2 : n < 0x800
  · rw [if_pos h2, if_pos (Nat.le_of_lt_succ h2), lead 0xC0 0x20 _ (Nat.div_lt_of_lt_mul h2) (by decide)]
  rw [if_neg h2, if_neg (mt Nat.lt_succ_of_le h2)]
  by_cases h3 : n < 0x10000
  · rw [if_pos h3, if_pos (Nat.le_of_lt_succ h3), lead 0xE0 0x10 _ (Nat.div_lt_of_lt_mul h3) (by decide)]
  rw [if_neg h3, if_neg (mt Nat.lt_succ_of_le h3), lead 0xF0 0x08 _ (Nat.div_lt_of_lt_mul hn) (by decide)]

end JL.Spec.Utf8
