import JL.Basic
import JL.F64
import JL.Dec
import JL.Json
import JL.JsOp
import JL.Ops
import JL.Generated.Tables
import JL.Data
import JL.StrArr
import JL.Eval
import JL.Wire
import JL.Spec.All
import JL.Spec.Substr
import JL.Spec.DeepEq
import JL.Lemmas.Tables
import JL.Lemmas.C15
import JL.Lemmas.C16
import JL.Lemmas.C03
import JL.Lemmas.C06
import JL.Lemmas.C01
import JL.Lemmas.C13
import JL.Lemmas.C04
import JL.Spec.C05
import JL.Lemmas.C05
import JL.Spec.C14
import JL.Lemmas.C14
import JL.Spec.ES
import JL.Lemmas.F64Order
import JL.Lemmas.C07
import JL.Lemmas.C09
import JL.Spec.Path
import JL.Lemmas.Digits
import JL.Lemmas.C11
import JL.Lemmas.C12
import JL.Spec.Arith
import JL.Lemmas.Round
import JL.Lemmas.C10
import JL.Spec.Ref
import JL.Lemmas.C04Ref
import JL.Spec.ESNum
import JL.Lemmas.StrNum
import JL.Lemmas.StrNumRadix
import JL.Props.C07Num
import JL.Props.C10Num
import JL.Spec.Utf8
import JL.Lemmas.Utf8
import JL.Props.C09Utf8
import JL.Props.C15Utf8
import JL.Lemmas.C01Wf
import JL.Props.C01Wf
import JL.Spec.IEEE
import JL.Lemmas.IEEE
import JL.Props.C10IEEE
import JL.Lemmas.RoundTripParse
import JL.Lemmas.RoundTripRound
import JL.Lemmas.RoundTripShortest
import JL.Lemmas.RoundTripLayout
import JL.Lemmas.RoundTripSeventeen
import JL.Lemmas.RoundTripSer
import JL.Lemmas.RoundTrip
import JL.Props.C10RoundTrip
import JL.Props.C18RoundTrip
